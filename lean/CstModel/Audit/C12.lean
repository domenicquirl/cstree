import CstModel.Props.C12
import CstModel.Proofs.ChunksTree
open Cst.C12
#print axioms concat_spec
#print axioms contains_spec
#print axioms find_spec
#print axioms eqStr_spec
#print axioms charAt_spec
#print axioms slice_spec
#print axioms zip_spec
#print axioms viewsEq_spec
#print axioms Cst.cut_spec
#print axioms Cst.leaves_text
#print axioms Cst.chunks_tree
#print axioms Cst.cut_spec_conv
#print axioms Cst.chunks_tree_eq
#print axioms Cst.chunks_tree_conv
#print axioms Cst.chunks_tree_panics
