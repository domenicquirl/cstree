import CstModel.Props.C13
import CstModel.Props.Gen
open Cst.C13
#print axioms cover_contains
#print axioms cover_total
#print axioms cover_deepest
#print axioms hitsG_shape
#print axioms children_ranges
#print axioms filter_children
#print axioms tao_total
#print axioms tao_spec
#print axioms tao_complete
#print axioms tao_iter
#print axioms tao_iter_next
#print axioms tao_iter_map
#print axioms Cst.Gen.tao_map
#print axioms Cst.Gen.tao_right_biased
#print axioms Cst.Gen.tao_left_biased
#print axioms Cst.Gen.tao_next
#print axioms Cst.Gen.tao_size_hint
