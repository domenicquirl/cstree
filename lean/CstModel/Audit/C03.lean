import CstModel.Props.C03
import CstModel.Proofs.WalkN
import CstModel.Proofs.Walk
import CstModel.Proofs.TokenSpec
import CstModel.Proofs.BackN
import CstModel.Props.Gen
import CstModel.Props.GenIter
import CstModel.Props.GenNav
open Cst.C03
#print axioms parent_child
#print axioms ancestorsOf_spec
#print axioms firstChildOrToken_spec
#print axioms lastChildOrToken_spec
#print axioms firstChild_spec
#print axioms nextSiblingOrToken_spec
#print axioms prevSiblingOrToken_spec
#print axioms collectElems_spec
#print axioms elem_iter_size_agrees
#print axioms node_iter_size_agrees
#print axioms preorder_spec
#print axioms Cst.walkNextT_sim
#print axioms Cst.walk_sim
#print axioms Cst.preorderWithTokens_spec
#print axioms Cst.firstChild_path
#print axioms Cst.nextSibling_path
#print axioms Cst.walkNextN_sim
#print axioms Cst.walk_preN
#print axioms Cst.preorder_nodes_spec
#print axioms Cst.firstToken_spec
#print axioms Cst.lastToken_spec
#print axioms Cst.nextToken_spec
#print axioms Cst.prevToken_spec
#print axioms Cst.leaves_split
#print axioms Cst.lastChild_spec
#print axioms Cst.prevSibling_spec
#print axioms forwarders_elem_ok
#print axioms forwarders_resolved_ok
#print axioms elem_token_first_last
#print axioms elem_token_ancestors
#print axioms Cst.Gen.not_into_node
#print axioms Cst.Gen.not_into_token
#print axioms Cst.Gen.not_as_node
#print axioms Cst.Gen.not_as_token
#print axioms Cst.Gen.not_as_ref
#print axioms Cst.Gen.not_cloned
#print axioms Cst.Gen.walk_map
#print axioms Cst.Gen.it_new
#print axioms Cst.Gen.it_next
#print axioms Cst.Gen.children_new
#print axioms Cst.Gen.ec_next
#print axioms Cst.Gen.nv_first
#print axioms Cst.Gen.nv_last
#print axioms Cst.Gen.nv_next_after
#print axioms Cst.Gen.nv_prev_before
#print axioms Cst.Gen.nv_next_sibling
#print axioms Cst.Gen.nv_prev_sibling
#print axioms Cst.Gen.tk_siblings
#print axioms Cst.Gen.tk_green
#print axioms Cst.Gen.tk_kinds
#print axioms Cst.Gen.nd_accessors
