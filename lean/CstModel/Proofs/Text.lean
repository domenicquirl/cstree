/-
  Proofs/Text — byte offsets of a text.  One notion does the work: `n` is a character boundary of `t` exactly
  when `t = p ++ q` with `blen p = n`, and then `takeBytes`, `dropBytes` return `p`, `q`; a slice `a..b` exists
  exactly when `t = p ++ x ++ q` with `a`, `b` the ends of `p`, `p ++ x`.  Above these characterisations
  everything is algebra of `++`: no proof looks at characters again.
-/
import CstModel.Model.Text
namespace Cst

theorem blen_eq_zero {t : Text} : blen t = 0 ↔ t = [] := by
  cases t with
  | nil => simp
  | cons c cs => have := Char.utf8Size_pos c; simp; omega

theorem takeBytes_eq_some {t p : Text} {n : Nat} : takeBytes t n = some p ↔ ∃ q, t = p ++ q ∧ blen p = n := by
  fun_induction takeBytes t n generalizing p with
  | case1 t => simp +contextual [blen_eq_zero, eq_comm]
  | case2 n =>
    refine ⟨fun h => (nomatch h), fun ⟨q, h, hb⟩ => ?_⟩
    rw [(List.append_eq_nil_iff.mp h.symm).1] at hb
    cases hb
  | case3 c cs n h ih =>
    rw [Option.map_eq_some_iff]
    constructor
    · rintro ⟨p', hp', rfl⟩
      obtain ⟨q, rfl, hb⟩ := ih.mp hp'
      exact ⟨q, rfl, by rw [blen_cons]; omega⟩
    · rintro ⟨q, hq, hb⟩
      cases p with
      | nil => cases hb
      | cons d p =>
        cases hq
        exact ⟨p, ih.mpr ⟨q, rfl, by rw [blen_cons] at hb; omega⟩, rfl⟩
  | case4 c cs n h =>
    refine ⟨fun h => (nomatch h), fun ⟨q, hq, hb⟩ => ?_⟩
    cases p with
    | nil => cases hb
    | cons d p => cases hq; rw [blen_cons] at hb; omega

/-- `dropBytes` drops what `takeBytes` takes, `isBoundary` says whether that exists: one recursion, three readings -/
theorem dropBytes_eq_map (t : Text) (n : Nat) : dropBytes t n = (takeBytes t n).map fun p => t.drop p.length := by
  fun_induction dropBytes t n <;> simp [takeBytes, *, Function.comp_def]

theorem isBoundary_eq_isSome (t : Text) (n : Nat) : isBoundary t n = (takeBytes t n).isSome := by
  fun_induction isBoundary t n <;> simp [takeBytes, *]

theorem dropBytes_eq_some {t q : Text} {n : Nat} : dropBytes t n = some q ↔ ∃ p, t = p ++ q ∧ blen p = n := by
  simp only [dropBytes_eq_map, Option.map_eq_some_iff, takeBytes_eq_some]
  constructor
  · rintro ⟨p, ⟨q', rfl, hb⟩, rfl⟩; exact ⟨p, by simp, hb⟩
  · rintro ⟨p, rfl, hb⟩; exact ⟨p, ⟨q, rfl, hb⟩, by simp⟩

theorem isBoundary_iff {t : Text} {n : Nat} : isBoundary t n = true ↔ ∃ p q, t = p ++ q ∧ blen p = n := by
  simp only [isBoundary_eq_isSome, Option.isSome_iff_exists, takeBytes_eq_some]

theorem sliceBytes_eq_bind (t : Text) (a b : Nat) :
    sliceBytes t a b = if a ≤ b then (dropBytes t a).bind (takeBytes · (b - a)) else none := by
  unfold sliceBytes; cases dropBytes t a <;> rfl

theorem sliceBytes_eq_some {t x : Text} {a b : Nat} :
    sliceBytes t a b = some x ↔ ∃ p q, t = p ++ x ++ q ∧ blen p = a ∧ a + blen x = b := by
  rw [sliceBytes_eq_bind]
  split
  · simp only [Option.bind_eq_some_iff, dropBytes_eq_some, takeBytes_eq_some]
    constructor
    · rintro ⟨_, ⟨p, rfl, rfl⟩, q, rfl, hx⟩; exact ⟨p, q, by simp, rfl, by omega⟩
    · rintro ⟨p, q, rfl, rfl, rfl⟩; exact ⟨x ++ q, ⟨p, by simp, rfl⟩, q, rfl, by omega⟩
  · next hab => exact ⟨fun h => (nomatch h), fun ⟨_, _, _, _, h⟩ => absurd (h ▸ Nat.le_add_right ..) hab⟩

theorem sliceBytes_le_blen {t x : Text} {a b : Nat} (h : sliceBytes t a b = some x) : b ≤ blen t := by
  obtain ⟨p, q, rfl, rfl, rfl⟩ := sliceBytes_eq_some.mp h
  simp only [blen_append]; omega

/-- two splits of the same text, ordered by byte length, differ by a middle piece -/
theorem append_eq_append_of_blen_le {a b c d : Text} (h : a ++ b = c ++ d) (hl : blen a ≤ blen c) :
    ∃ e, c = a ++ e ∧ b = e ++ d := by
  rcases List.append_eq_append_iff.mp h with ⟨e, rfl, rfl⟩ | ⟨e, rfl, rfl⟩
  · exact ⟨e, rfl, rfl⟩
  · obtain rfl : e = [] := blen_eq_zero.mp (by rw [blen_append] at hl; omega)
    exact ⟨[], by simp, by simp⟩

theorem dropBytes_append (t r : Text) (n : Nat) :
    dropBytes (t ++ r) n = if n < blen t then (dropBytes t n).map (· ++ r) else dropBytes r (n - blen t) := by
  ext x
  split
  · simp only [Option.map_eq_some_iff, dropBytes_eq_some]
    constructor
    · rintro ⟨p, h, hb⟩
      obtain ⟨e, rfl, rfl⟩ := append_eq_append_of_blen_le h.symm (by omega)
      exact ⟨e, ⟨p, rfl, hb⟩, rfl⟩
    · rintro ⟨e, ⟨p, rfl, hb⟩, rfl⟩; exact ⟨p, by simp, hb⟩
  · simp only [dropBytes_eq_some]
    constructor
    · rintro ⟨p, h, hb⟩
      obtain ⟨e, rfl, rfl⟩ := append_eq_append_of_blen_le h (by omega)
      exact ⟨e, rfl, by rw [blen_append] at hb; omega⟩
    · rintro ⟨e, rfl, hb⟩; exact ⟨t ++ e, by simp, by rw [blen_append]; omega⟩

/-- **the slice of a concatenation** is the concatenation of the slices of the two parts, the range clamped to
    each part.  (One equation for "inside the first", "inside the second" and "across the seam", and for the
    panics: a cut inside a character of either part, an end beyond the second.) -/
theorem sliceBytes_append (t r : Text) (a b : Nat) :
    sliceBytes (t ++ r) a b =
      (sliceBytes t (min a (blen t)) (min b (blen t))).bind fun x =>
        (sliceBytes r (a - blen t) (b - blen t)).map (x ++ ·) := by
  ext x
  simp only [Option.bind_eq_some_iff, Option.map_eq_some_iff, sliceBytes_eq_some]
  constructor
  · -- where the seam falls in `p ++ x ++ q`: in `p`, in `q`, or in `x`
    rintro ⟨p, q, h, rfl, rfl⟩
    rw [List.append_assoc] at h
    rcases List.append_eq_append_iff.mp h with ⟨e, rfl, rfl⟩ | ⟨e, rfl, h'⟩
    · refine ⟨[], ⟨t, [], ?_, ?_, ?_⟩, x, ⟨e, q, ?_, ?_, ?_⟩, rfl⟩ <;> simp [blen_append] <;> omega
    · rcases List.append_eq_append_iff.mp h' with ⟨e', rfl, rfl⟩ | ⟨e', rfl, rfl⟩
      · refine ⟨x, ⟨p, e', ?_, ?_, ?_⟩, [], ⟨[], r, rfl, ?_, ?_⟩, ?_⟩ <;> simp [blen_append] <;> omega
      · refine ⟨e, ⟨p, [], ?_, ?_, ?_⟩, e', ⟨[], q, rfl, ?_, ?_⟩, rfl⟩ <;> simp [blen_append] <;> omega
  · -- conversely the clamps say which of the six pieces are empty; `T` is the seam.  The `min`s and truncated `-`s
    -- are rewritten away case by case before `omega` sees them: it is several times slower on them
    rintro ⟨x1, ⟨p1, q1, rfl, h1, h2⟩, x2, ⟨p2, q2, rfl, h3, h4⟩, rfl⟩
    generalize hT : blen (p1 ++ x1 ++ q1) = T at h1 h2 h3 h4
    simp only [blen_append] at hT
    rcases Nat.le_total b T with hb | hb
    · rw [Nat.sub_eq_zero_of_le hb, Nat.add_eq_zero_iff, blen_eq_zero] at h4
      obtain ⟨h4, rfl⟩ := h4
      rw [h4, blen_eq_zero] at h3
      subst h3
      rw [Nat.min_eq_left (Nat.sub_eq_zero_iff_le.mp h4)] at h1 h2
      rw [Nat.min_eq_left hb] at h2
      exact ⟨p1, q1 ++ q2, by simp, h1, by simpa using h2⟩
    · rw [Nat.min_eq_right hb] at h2
      obtain ⟨b', rfl⟩ := Nat.exists_eq_add_of_le hb
      rw [Nat.add_sub_cancel_left] at h4
      obtain rfl : q1 = [] := blen_eq_zero.mp (by omega)
      rcases Nat.le_total a T with ha | ha
      · rw [Nat.min_eq_left ha] at h1
        rw [Nat.sub_eq_zero_of_le ha, blen_eq_zero] at h3
        subst h3
        exact ⟨p1, q2, by simp, h1, by rw [blen_append]; omega⟩
      · rw [Nat.min_eq_right ha] at h1
        obtain ⟨a', rfl⟩ := Nat.exists_eq_add_of_le ha
        rw [Nat.add_sub_cancel_left] at h3 h4
        obtain rfl : x1 = [] := blen_eq_zero.mp (by omega)
        exact ⟨p1 ++ p2, q2, by simp, by rw [blen_append]; omega, by simp; omega⟩

end Cst
