import CstModel.Model.RedConc
import CstModel.Proofs.Red
namespace Cst.RedConc

theorem getOrAdd_eq (r : Red) (p : Path) (i o : Nat) : r.getOrAdd p i o = addIfAbsent r (p ++ [i], o) := rfl

/-- operations that keep the tree canonical (every navigation request of `Proofs/Red`, `Proofs/TokenNav`) -/
def KeepsR (f : Red → Red) : Prop := ∀ r, RInv r → RInv (f r) ∧ (f r).root = r.root

theorem keepsR_of_keeps {α : Type} {g : Red → α × Red} (h : Keeps g) : KeepsR (fun r => (g r).2) := h

structure Inv (s : Sys) : Prop where
  red : RInv s.red
  /-- every speculative element carries the canonical offset of its position -/
  pend : ∀ es, es ∈ s.thr → ∀ e, e ∈ es → canon s.red.root e.1 = some e.2

theorem inv_init (g : Green) (h : LenOk g) (n : Nat) : Inv (Sys.init g n) := by
  refine ⟨RInv.new g h, ?_⟩
  intro es hes e he
  simp only [Sys.init, List.mem_replicate] at hes
  rw [hes.2] at he
  cases he

theorem addIfAbsent_root (r : Red) (e : Entry) : (addIfAbsent r e).root = r.root := by
  unfold addIfAbsent; split <;> rfl

theorem addIfAbsent_canon {r : Red} (h : Canon r) (e : Entry) (he : canon r.root e.1 = some e.2) :
    Canon (addIfAbsent r e) := by
  unfold addIfAbsent
  split
  · exact h
  · intro q o hm
    simp only [List.mem_cons] at hm
    rcases hm with rfl | hm
    · exact he
    · exact h q o hm

/-- **the invariant holds along every interleaving**: whatever the threads do in whatever order, the shared
    cache stays canonical and so does every speculative element in flight -/
theorem inv_step (s s' : Sys) (t : Nat) (a : Act) (hI : Inv s) (hk : ∀ f, a = .read f → KeepsR f)
    (hs : step s t a = some s') : Inv s' ∧ s'.red.root = s.red.root := by
  cases a with
  | spawn =>
    simp only [step, Option.some.injEq] at hs
    subst hs
    refine ⟨⟨hI.red, ?_⟩, rfl⟩
    intro es hes e he
    simp only [List.mem_append, List.mem_singleton] at hes
    rcases hes with hes | rfl
    · exact hI.pend es hes e he
    · cases he
  | read f =>
    simp only [step] at hs
    cases ht : s.thr[t]? with
    | none => simp [ht] at hs
    | some es0 =>
      cases es0 with
      | cons _ _ => simp [ht] at hs
      | nil =>
        simp only [ht, Option.some.injEq] at hs
        subst hs
        refine ⟨⟨hI.red, ?_⟩, rfl⟩
        intro es hes e he
        rcases List.mem_or_eq_of_mem_set hes with hes | rfl
        · exact hI.pend es hes e he
        · -- the fresh speculative elements: entries of the canonical cache `f` would produce
          obtain ⟨hr', hroot⟩ := hk f rfl s.red hI.red
          simp only [newEntries, List.mem_filter] at he
          have := hr'.canon e.1 e.2 he.1
          rw [hroot] at this
          exact this
  | write =>
    simp only [step] at hs
    cases ht : s.thr[t]? with
    | none => simp [ht] at hs
    | some es0 =>
      cases es0 with
      | nil => simp [ht] at hs
      | cons e es =>
        simp only [ht, Option.some.injEq] at hs
        subst hs
        have hmem : (e :: es) ∈ s.thr := List.mem_of_getElem? ht
        have he := hI.pend _ hmem e (by simp)
        refine ⟨⟨⟨addIfAbsent_canon hI.red.canon e he, by rw [addIfAbsent_root]; exact hI.red.lens⟩, ?_⟩, addIfAbsent_root _ _⟩
        intro es' hes' e' he'
        simp only [addIfAbsent_root]
        rcases List.mem_or_eq_of_mem_set hes' with hes' | rfl
        · exact hI.pend es' hes' e' he'
        · exact hI.pend _ hmem e' (List.mem_cons_of_mem _ he')

theorem inv_run (acts : List (Nat × Act)) : ∀ (s s' : Sys), Inv s → (∀ t f, (t, Act.read f) ∈ acts → KeepsR f) →
    run s acts = some s' → Inv s' ∧ s'.red.root = s.red.root := by
  induction acts with
  | nil => intro s s' hI _ h; simp only [run, Option.some.injEq] at h; subst h; exact ⟨hI, rfl⟩
  | cons x xs ih =>
    intro s s' hI hk h
    obtain ⟨t, a⟩ := x
    simp only [run] at h
    cases hs : step s t a with
    | none => simp [hs] at h
    | some s1 =>
      simp only [hs, Option.bind_some] at h
      obtain ⟨h1, hr1⟩ := inv_step s s1 t a hI (fun f hf => hk t f (by simp [hf])) hs
      obtain ⟨h2, hr2⟩ := ih s1 s' h1 (fun t f hm => hk t f (List.mem_cons_of_mem _ hm)) h
      exact ⟨h2, hr2.trans hr1⟩

/-- a step leaves the shared cache alone or is a `try_write` -/
theorem step_red {s s' : Sys} {t : Nat} {a : Act} (hs : step s t a = some s') :
    s'.red = s.red ∨ ∃ e, s'.red = addIfAbsent s.red e := by
  unfold step at hs
  split at hs
  · split at hs <;> cases hs; exact Or.inl rfl
  · split at hs <;> cases hs; exact Or.inr ⟨_, rfl⟩
  · cases hs; exact Or.inl rfl

theorem addIfAbsent_lookup {r : Red} {q : Path} {o : Nat} (h : r.slots.lookup q = some o) (e : Entry) :
    (addIfAbsent r e).slots.lookup q = some o := by
  unfold addIfAbsent
  split
  · exact h
  · rename_i hl
    show List.lookup q ((e.1, e.2) :: r.slots) = some o
    rw [List.lookup_cons]
    split
    · rename_i hq; rw [eq_of_beq hq, hl] at h; cases h
    · exact h

/-- a filled slot is never changed: a later `try_write` to it is a no-op (written once) -/
theorem written_once (s s' : Sys) (t : Nat) (a : Act) (hs : step s t a = some s') (q : Path) (o : Nat)
    (h : s.red.slots.lookup q = some o) : s'.red.slots.lookup q = some o := by
  rcases step_red hs with e | ⟨e, he⟩
  · rw [e]; exact h
  · rw [he]; exact addIfAbsent_lookup h e

/-- **losing a creation race has no observable effect**: the element found in the slot is the very element the
    loser had computed (same position, same offset; kind and length come from the immutable green tree) -/
theorem loser_finds_its_own (s : Sys) (hI : Inv s) (es : List Entry) (hes : es ∈ s.thr) (e : Entry) (he : e ∈ es)
    (o : Nat) (hfilled : s.red.slots.lookup e.1 = some o) : o = e.2 := by
  have h1 := hI.red.canon e.1 o (lookup_mem hfilled)
  have h2 := hI.pend es hes e he
  rw [h1] at h2
  exact Option.some.inj h2

/-- **whatever the interleaving, a filled slot holds what the sequential tree would hold**: if the concurrent cache and
    any sequentially obtained canonical cache over the same green tree both have the position, the offsets agree -/
theorem agrees_with_sequential (s : Sys) (hI : Inv s) (r : Red) (hr : RInv r) (hroot : r.root = s.red.root)
    (q : Path) (o o' : Nat) (h1 : s.red.start q = some o) (h2 : r.start q = some o') : o = o' := by
  have a := hI.red.canon.start h1
  have b := hr.canon.start h2
  rw [hroot, a] at b
  exact Option.some.inj b

theorem lookup_some_of_mem {l : List Entry} {e : Entry} (he : e ∈ l) : ∃ v, l.lookup e.1 = some v := by
  induction l with
  | nil => cases he
  | cons x xs ih =>
    obtain ⟨xk, xv⟩ := x
    rw [List.lookup_cons]
    by_cases hk : e.1 == xk
    · exact ⟨xv, by simp [hk]⟩
    · simp only [hk]
      rcases List.mem_cons.mp he with rfl | h
      · simp at hk
      · exact ih h

theorem newEntries_getOrAdd (r : Red) (p : Path) (i o : Nat) (hempty : r.slots.lookup (p ++ [i]) = none) :
    newEntries r (r.getOrAdd p i o) = [(p ++ [i], o)] := by
  simp only [newEntries, Red.getOrAdd, hempty, List.filter_cons, Option.isNone_none, ↓reduceIte]
  congr 1
  apply List.filter_eq_nil_iff.mpr
  intro e he
  obtain ⟨v, hv⟩ := lookup_some_of_mem he
  simp [hv]

/-- a single-element operation performed without interference is the sequential operation -/
theorem atomic_is_sequential (s : Sys) (t : Nat) (p : Path) (i o : Nat) (ht : s.thr[t]? = some [])
    (hempty : s.red.slots.lookup (p ++ [i]) = none) :
    ∃ s1 s2, step s t (.read (fun r => r.getOrAdd p i o)) = some s1 ∧ step s1 t .write = some s2 ∧
      s2.red = s.red.getOrAdd p i o ∧ s2.thr = s.thr := by
  have hnew := newEntries_getOrAdd s.red p i o hempty
  have hlt : t < s.thr.length := (List.getElem?_eq_some_iff.mp ht).1
  refine ⟨{ s with thr := s.thr.set t [(p ++ [i], o)] }, { red := s.red.getOrAdd p i o, thr := s.thr }, ?_, ?_, rfl, rfl⟩
  · simp only [step, ht, hnew]
  · simp only [step, List.getElem?_set_self hlt, List.set_set, getOrAdd_eq]
    congr 2
    have hg : s.thr[t] = [] := by
      have := List.getElem?_eq_getElem hlt
      rw [this] at ht
      exact Option.some.inj ht
    rw [← hg]
    exact List.set_getElem_self hlt

end Cst.RedConc
