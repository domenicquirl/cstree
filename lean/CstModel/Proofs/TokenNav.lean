/- the token hops and the offset / range queries are compositions of `Ext` steps, for any arguments -/
import CstModel.Proofs.Red
namespace Cst
open Red

theorem firstTokenGo_ext (n : Nat) : ∀ r p, Ext r (Red.firstTokenGo n r p).2 := by
  induction n with
  | zero => intro r _; unfold Red.firstTokenGo; exact .refl r
  | succ n ih =>
    -- an inner `have`, not a `where`-lemma recursive with the theorem: the equation compiler makes that a hundred times dearer
    have scan : ∀ k {it : It} {r : Red}, ItOk r it → Ext r (Red.firstTokenGo.scan n it r k).2 := by
      intro k
      induction k with
      | zero => intro _ r _; unfold Red.firstTokenGo.scan; exact .refl r
      | succ k ihk =>
        intro it r hi
        have hs := nextElem_ext hi
        unfold Red.firstTokenGo.scan
        split
        · next c it' r' h =>
          rw [h] at hs
          split
          · next e => exact hs.1.trans ((ih r' c).of_eq e)
          · next e => exact hs.1.trans (((ih r' c).of_eq e).trans (ihk (hs.2.ext ((ih r' c).of_eq e))))
        · next h => rw [h] at hs; exact hs.1
    intro r p
    unfold Red.firstTokenGo
    split
    · exact .refl r
    · split
      · exact .refl r
      · next it hi => exact scan _ (iterNew_ok hi)

theorem elemFirstToken_ext (r : Red) (p : Path) : Ext r (Red.elemFirstToken r p).2 := firstTokenGo_ext ..

/-- the sibling scans of `last_token`, `next_token`, `prev_token`: try `f` on an element, else hop on -/
theorem sibScan_ext {f hop : Red → Path → Option Path × Red} (hf : ∀ r p, Ext r (f r p).2) (hhop : ∀ r p, Ext r (hop r p).2)
    {scan : Red → Path → Nat → Option Path × Red}
    (hscan : ∀ r c k, scan r c (k + 1) = match f r c with
      | (some t, r') => (some t, r')
      | (none, r') => match hop r' c with
        | (some c', r'') => scan r'' c' k
        | (none, r'') => (none, r''))
    (h0 : ∀ r c, scan r c 0 = (none, r)) : ∀ k r c, Ext r (scan r c k).2
  | 0, r, c => by rw [h0]; exact .refl r
  | k + 1, r, c => by
    rw [hscan]
    split
    · next e => exact (hf r c).of_eq e
    · next r' e =>
      split
      · next c' r'' e' => exact ((hf r c).of_eq e).trans (((hhop r' c).of_eq e').trans (sibScan_ext hf hhop hscan h0 k r'' c'))
      · next e' => exact ((hf r c).of_eq e).trans ((hhop r' c).of_eq e')

theorem lastTokenGo_ext : ∀ n r p, Ext r (Red.lastTokenGo n r p).2
  | 0, r, _ => by unfold Red.lastTokenGo; exact .refl r
  | n + 1, r, p => by
    unfold Red.lastTokenGo
    split
    · exact .refl r
    · split
      · next e => exact ((lastChildOrToken_ok r p).ext).of_eq e
      · next c r' e =>
        exact (((lastChildOrToken_ok r p).ext).of_eq e).trans
          (sibScan_ext (lastTokenGo_ext n) (fun r p => (prevSiblingOrToken_ok r p).ext) (fun _ _ _ => by rw [Red.lastTokenGo.scanBack]; rfl)
            (fun _ _ => by rw [Red.lastTokenGo.scanBack]) ..)

theorem elemLastToken_ext (r : Red) (p : Path) : Ext r (Red.elemLastToken r p).2 := lastTokenGo_ext ..
theorem firstToken_ext (r : Red) (p : Path) : Ext r (r.firstToken p).2 := elemFirstToken_ext r p
theorem lastToken_ext (r : Red) (p : Path) : Ext r (r.lastToken p).2 := elemLastToken_ext r p

theorem nextTokenGo_ext : ∀ n r p, Ext r (Red.nextTokenGo n r p).2
  | 0, r, _ => by unfold Red.nextTokenGo; exact .refl r
  | n + 1, r, p => by
    have up : ∀ r, Ext r (Red.nextTokenGo.up n r p).2 := fun r => by
      unfold Red.nextTokenGo.up; split
      · exact nextTokenGo_ext n r _
      · exact .refl r
    have h0 := (nextSiblingOrToken_ok r p).ext
    unfold Red.nextTokenGo
    split
    · next s r' e =>
      have h1 := sibScan_ext elemFirstToken_ext (fun r p => (nextSiblingOrToken_ok r p).ext) (scan := Red.nextTokenGo.sibScan)
        (fun _ _ _ => rfl) (fun _ _ => rfl) (nSiblings r' s) r' s
      split
      · next e' => exact (h0.of_eq e).trans (h1.of_eq e')
      · next e' => exact (h0.of_eq e).trans ((h1.of_eq e').trans (up _))
    · next e => exact (h0.of_eq e).trans (up _)

theorem nextToken_ext (r : Red) (p : Path) : Ext r (r.nextToken p).2 := nextTokenGo_ext ..

theorem prevTokenGo_ext : ∀ n r p, Ext r (Red.prevTokenGo n r p).2
  | 0, r, _ => by unfold Red.prevTokenGo; exact .refl r
  | n + 1, r, p => by
    have up : ∀ r, Ext r (Red.prevTokenGo.up n r p).2 := fun r => by
      unfold Red.prevTokenGo.up; split
      · exact prevTokenGo_ext n r _
      · exact .refl r
    have h0 := (prevSiblingOrToken_ok r p).ext
    unfold Red.prevTokenGo
    split
    · next s r' e =>
      have h1 := sibScan_ext elemLastToken_ext (fun r p => (prevSiblingOrToken_ok r p).ext) (scan := Red.prevTokenGo.sibScan)
        (fun _ _ _ => rfl) (fun _ _ => rfl) (nSiblings r' s) r' s
      split
      · next e' => exact (h0.of_eq e).trans (h1.of_eq e')
      · next e' => exact (h0.of_eq e).trans ((h1.of_eq e').trans (up _))
    · next e => exact (h0.of_eq e).trans (up _)

theorem prevToken_ext (r : Red) (p : Path) : Ext r (r.prevToken p).2 := prevTokenGo_ext ..

/-! ### the queries -/

theorem tokenAtOffsetGo_ext : ∀ n r p off, Ext r (Red.tokenAtOffsetGo n r p off).2
  | 0, r, _, _ => .refl r
  | n + 1, r, p, off => by
    have ih := tokenAtOffsetGo_ext n
    unfold Red.tokenAtOffsetGo
    split
    · exact .refl r
    · repeat' (split; exact .refl r)
      split
      next cs r1 hcw =>
      have hc := (childrenWithTokens_ext r p).of_eq hcw
      split
      · exact hc
      · exact hc.trans (ih ..)
      · split
        next a r2 ha =>
        split
        next b r3 hb =>
        have := hc.trans (((ih ..).of_eq ha).trans ((ih ..).of_eq hb))
        split <;> exact this
      · exact hc

theorem tokenAtOffset_ext (r : Red) (p : Path) (off : Nat) : Ext r (r.tokenAtOffset p off).2 := tokenAtOffsetGo_ext ..

theorem findCovering_ext (rg : Nat × Nat) : ∀ k {it : It} {r : Red}, ItOk r it → Ext r (Red.findCovering rg it r k).2
  | 0, _, r, _ => .refl r
  | k + 1, it, r, hi => by
    have hs := nextElem_ext hi
    unfold Red.findCovering
    split
    · next h =>
      rw [h] at hs
      split
      · split
        · exact hs.1
        · exact hs.1.trans (findCovering_ext rg k hs.2)
      · exact hs.1
    · next h => rw [h] at hs; exact hs.1

theorem coveringGo_ext : ∀ n r p rg, Ext r (Red.coveringGo n r p rg).2
  | 0, r, _, _ => .refl r
  | n + 1, r, p, rg => by
    unfold Red.coveringGo
    split
    · exact .refl r
    · repeat' (split; exact .refl r)
      next it hi =>
      have hf := findCovering_ext rg (it.rest.length + 1) (iterNew_ok hi)
      split
      · next e => exact (hf.of_eq e).trans (coveringGo_ext n ..)
      · next e => exact hf.of_eq e

theorem coveringElement_ext (r : Red) (p : Path) (rg : Nat × Nat) : Ext r (r.coveringElement p rg).2 := coveringGo_ext ..

end Cst
