/- helper lemmas for the interner model (C10, used by C01/C04/C11/C15) -/
import CstModel.Model.Interner
namespace Cst

theorem findIdx_some {s : Text} {l : List Text} {i : Nat} (h : findIdx s l = some i) :
    l[i]? = some s := by
  induction l generalizing i with
  | nil => simp [findIdx] at h
  | cons x xs ih =>
    simp only [findIdx] at h
    split at h
    · cases h; simpa
    · obtain ⟨j, hj, rfl⟩ := Option.map_eq_some_iff.mp h
      simpa using ih hj

theorem findIdx_eq_none {s : Text} {l : List Text} : findIdx s l = none ↔ s ∉ l := by
  induction l with
  | nil => simp [findIdx]
  | cons x xs ih =>
    by_cases hx : x = s
    · simp [findIdx, hx]
    · simp [findIdx, hx, ih, Ne.symm hx]

theorem findIdx_of_mem {s : Text} {l : List Text} (h : s ∈ l) : ∃ i, findIdx s l = some i :=
  Option.isSome_iff_exists.mp (Option.isSome_iff_ne_none.mpr (mt findIdx_eq_none.mp (not_not_intro h)))

/-- the two outcomes of a successful `intern`: a hit returns the index of the string and leaves the table
    alone; a miss appends the string below the capacity and returns its index -/
theorem intern_cases {I I' : Interner} {s : Text} {k : Nat} (h : I.intern s = some (k, I')) :
    (I' = I ∧ I.strs[k]? = some s) ∨
    (s ∉ I.strs ∧ k = I.strs.length ∧ k < I.cap ∧ I' = { I with strs := I.strs ++ [s] }) := by
  unfold Interner.intern at h
  split at h
  · rename_i hf; cases h; exact .inl ⟨rfl, findIdx_some hf⟩
  · rename_i hf
    split at h
    · cases h
    · cases h; exact .inr ⟨findIdx_eq_none.mp hf, rfl, Nat.lt_of_not_ge ‹_›, rfl⟩

theorem intern_eq_none {I : Interner} {s : Text} : I.intern s = none ↔ s ∉ I.strs ∧ I.strs.length ≥ I.cap := by
  rw [← findIdx_eq_none, Interner.intern]
  cases findIdx s I.strs <;> simp

/-- every operation only appends: the old table is a prefix of the new one -/
theorem intern_prefix {I I' : Interner} {s : Text} {k : Nat} (h : I.intern s = some (k, I')) :
    I.strs <+: I'.strs ∧ I'.cap = I.cap := by
  rcases intern_cases h with ⟨rfl, _⟩ | ⟨_, _, _, rfl⟩
  · exact ⟨List.prefix_refl _, rfl⟩
  · exact ⟨List.prefix_append _ _, rfl⟩

theorem intern_length_le {I I' : Interner} {s : Text} {k : Nat} (h : I.intern s = some (k, I')) :
    I'.strs.length ≤ I.strs.length + 1 := by
  rcases intern_cases h with ⟨rfl, _⟩ | ⟨_, _, _, rfl⟩ <;> simp

theorem resolve_lt {I : Interner} {k : Nat} {s : Text} (h : I.resolve k = some s) : k < I.strs.length :=
  (List.getElem?_eq_some_iff.mp h).1

theorem resolve_mono {I J : Interner} (hp : I.strs <+: J.strs) {k : Nat} {s : Text}
    (h : I.resolve k = some s) : J.resolve k = some s := by
  obtain ⟨t, ht⟩ := hp
  simp only [Interner.resolve, ← ht, List.getElem?_append_left (resolve_lt h)]
  exact h

theorem intern_resolve {I I' : Interner} {s : Text} {k : Nat} (h : I.intern s = some (k, I')) :
    I'.resolve k = some s := by
  rcases intern_cases h with ⟨rfl, hk⟩ | ⟨_, rfl, _, rfl⟩
  · exact hk
  · simp [Interner.resolve]

theorem intern_nodup {I I' : Interner} {s : Text} {k : Nat} (hn : I.strs.Nodup)
    (h : I.intern s = some (k, I')) : I'.strs.Nodup := by
  rcases intern_cases h with ⟨rfl, _⟩ | ⟨hs, _, _, rfl⟩
  · exact hn
  · exact List.nodup_append.mpr ⟨hn, by simp, fun a ha b hb e => hs (by simp_all)⟩

theorem resolve_inj {I : Interner} (hn : I.strs.Nodup) {k1 k2 : Nat} {s : Text}
    (h1 : I.resolve k1 = some s) (h2 : I.resolve k2 = some s) : k1 = k2 :=
  (List.getElem?_inj (resolve_lt h1) hn).mp (h1.trans h2.symm)

theorem findIdx_of_resolve {I : Interner} (hn : I.strs.Nodup) {key : Nat} {s : Text} (h : I.resolve key = some s) :
    findIdx s I.strs = some key := by
  obtain ⟨i, hi⟩ := findIdx_of_mem (List.mem_of_getElem? h)
  rw [hi, resolve_inj hn (findIdx_some hi) h]

/-- the key returned is always below the capacity (so the conversion to `TokenKey` cannot fail) -/
theorem intern_lt_cap {I I' : Interner} {s : Text} {k : Nat} (hc : I.strs.length ≤ I.cap)
    (h : I.intern s = some (k, I')) : k < I.cap ∧ I'.strs.length ≤ I'.cap := by
  rcases intern_cases h with ⟨rfl, hk⟩ | ⟨_, rfl, hlt, rfl⟩
  · exact ⟨Nat.lt_of_lt_of_le (resolve_lt hk) hc, hc⟩
  · exact ⟨hlt, by simpa using Nat.succ_le_of_lt hlt⟩

end Cst
