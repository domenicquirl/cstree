/- counting lemmas and the inductive invariant of the slot / reference-count protocol -/
import CstModel.Model.Conc
import CstModel.Proofs.Lists
namespace Cst.Conc

/-- decrements a thread still owes the counter on the loser path (they were added in advance) -/
def owed : PC → Int
  | .added _ true _ => 2
  | .added _ false _ => 1
  | .dropped1 _ _ => 1
  | _ => 0

def sumOwned : List Thr → Int
  | [] => 0
  | t :: ts => (t.owned : Int) + sumOwned ts

def sumOwed : List Thr → Int
  | [] => 0
  | t :: ts => owed t.pc + sumOwed ts

theorem owed_nonneg (p : PC) : 0 ≤ owed p := by
  cases p <;> simp [owed] <;> (rename_i b _ ; cases b <;> simp)

theorem sumOwned_eq (l : List Thr) : sumOwned l = (l.map fun t => (t.owned : Int)).sum := by
  induction l with
  | nil => rfl
  | cons x xs ih => rw [sumOwned, ih, List.map_cons, List.sum_cons]

theorem sumOwed_eq (l : List Thr) : sumOwed l = (l.map fun t => owed t.pc).sum := by
  induction l with
  | nil => rfl
  | cons x xs ih => rw [sumOwed, ih, List.map_cons, List.sum_cons]

theorem sumOwned_set (l : List Thr) (i : Nat) (t u : Thr) (h : l[i]? = some t) :
    sumOwned (l.set i u) = sumOwned l - t.owned + u.owned := by
  rw [sumOwned_eq, sumOwned_eq]; exact sum_map_set _ l i t u h

theorem sumOwed_set (l : List Thr) (i : Nat) (t u : Thr) (h : l[i]? = some t) :
    sumOwed (l.set i u) = sumOwed l - owed t.pc + owed u.pc := by
  rw [sumOwed_eq, sumOwed_eq]; exact sum_map_set _ l i t u h

theorem sumOwned_nonneg (l : List Thr) : 0 ≤ sumOwned l := by
  rw [sumOwned_eq]; exact sum_map_nonneg _ (fun _ => Int.natCast_nonneg _) l

theorem sumOwed_nonneg (l : List Thr) : 0 ≤ sumOwed l := by
  rw [sumOwed_eq]; exact sum_map_nonneg (fun t : Thr => owed t.pc) (fun t => owed_nonneg t.pc) l

theorem owned_le_sum (l : List Thr) (i : Nat) (t : Thr) (h : l[i]? = some t) : (t.owned : Int) ≤ sumOwned l := by
  rw [sumOwned_eq]; exact le_sum_map _ (fun _ => Int.natCast_nonneg _) l i t h

theorem owed_le_sum (l : List Thr) (i : Nat) (t : Thr) (h : l[i]? = some t) : owed t.pc ≤ sumOwed l := by
  rw [sumOwed_eq]; exact le_sum_map (fun t : Thr => owed t.pc) (fun t => owed_nonneg t.pc) l i t h

/-- **the invariant**: while the tree is alive the counter equals the owned handles plus the
    decrements owed on loser paths; a busy thread owns a handle; teardown happens at most once, and
    only when nobody owns a handle -/
structure Inv (s : Sys) : Prop where
  rcEq : s.torn = 0 → s.rc = sumOwned s.thr + sumOwed s.thr
  busyOwns : ∀ t ∈ s.thr, t.pc ≠ .idle → t.owned ≥ 1
  tornLe : s.torn ≤ 1
  tornNone : s.torn = 1 → sumOwned s.thr = 0
  /-- while the tree is alive the counter is positive: it reaches 0 only in the step that tears down -/
  rcPos : s.torn = 0 → 1 ≤ s.rc

theorem mem_set_cases {l : List Thr} {i : Nat} {u x : Thr} (h : x ∈ l.set i u) : x = u ∨ x ∈ l := by
  rcases List.mem_or_eq_of_mem_set h with h | h
  · exact Or.inr h
  · exact Or.inl h

/-- while the tree is alive the invariant sees the counter and the threads only through the balance
    `rc - (sumOwned + sumOwed)`, which is 0, and through who is busy -/
theorem inv_of_balance {s s2 : Sys} (hI : Inv s) (h0 : s.torn = 0) (ht : s2.torn = s.torn)
    (hbal : s2.rc - (sumOwned s2.thr + sumOwed s2.thr) = s.rc - (sumOwned s.thr + sumOwed s.thr))
    (hpos : s.rc ≤ s2.rc) (hbusy : ∀ x ∈ s2.thr, x.pc ≠ .idle → x.owned ≥ 1) : Inv s2 :=
  ⟨fun _ => by have := hI.rcEq h0; omega, hbusy, ht ▸ hI.tornLe,
   fun h => absurd (h0.symm.trans (ht.symm.trans h)) Nat.zero_ne_one, fun _ => Int.le_trans (hI.rcPos h0) hpos⟩

theorem busy_set {l : List Thr} (i : Nat) {u : Thr} (hl : ∀ x ∈ l, x.pc ≠ .idle → x.owned ≥ 1)
    (hu : u.pc ≠ .idle → u.owned ≥ 1) : ∀ x ∈ l.set i u, x.pc ≠ .idle → x.owned ≥ 1 := by
  intro x hx hpc
  rcases mem_set_cases hx with rfl | hx
  · exact hu hpc
  · exact hl x hx hpc

/-- updating one thread (and the counter) consistently preserves the invariant -/
theorem inv_setThr (s : Sys) (i : Nat) (t u : Thr) (rc' : Int) (s2 : Sys) (ht : s.thr[i]? = some t) (hI : Inv s)
    (h0 : s.torn = 0)
    (hs2 : s2.thr = s.thr.set i u ∧ s2.rc = rc' ∧ s2.torn = s.torn)
    (hrc : rc' = s.rc - t.owned + u.owned - owed t.pc + owed u.pc)
    (hbusy : u.pc ≠ .idle → u.owned ≥ 1) (hpos : s.rc ≤ rc') : Inv s2 := by
  obtain ⟨e1, e2, e3⟩ := hs2
  refine inv_of_balance hI h0 e3 ?_ (e2 ▸ hpos) (e1 ▸ busy_set i hI.busyOwns hbusy)
  rw [e1, e2, sumOwned_set _ _ _ u ht, sumOwed_set _ _ _ u ht]
  omega

/-- `dec` on a state whose counter is one ahead of the books -/
theorem inv_dec (s : Sys) (h0 : s.torn = 0)
    (hrc : s.rc = sumOwned s.thr + sumOwed s.thr + 1)
    (hbusy : ∀ t ∈ s.thr, t.pc ≠ .idle → t.owned ≥ 1) : Inv (dec s) := by
  have a := sumOwned_nonneg s.thr
  have b := sumOwed_nonneg s.thr
  show Inv (if s.rc = 1 then _ else _)
  split
  · -- the decrement that sees 1: nobody owns or owes anything
    exact ⟨fun h => absurd h (Nat.succ_ne_zero _), hbusy, Nat.le_of_eq (congrArg (· + 1) h0),
      fun _ => show sumOwned s.thr = 0 by omega, fun h => absurd h (Nat.succ_ne_zero _)⟩
  · exact ⟨fun _ => show s.rc - 1 = sumOwned s.thr + sumOwed s.thr by rw [hrc]; exact Int.add_sub_cancel _ _, hbusy, h0 ▸ Nat.zero_le 1,
      fun h => absurd (h0.symm.trans h) Nat.zero_ne_one, fun _ => show 1 ≤ s.rc - 1 by omega⟩

theorem inv_spawn (s : Sys) (hI : Inv s) : Inv { s with thr := s.thr ++ [⟨0, .idle⟩] } := by
  have e1 : sumOwned (s.thr ++ [⟨0, .idle⟩]) = sumOwned s.thr := by
    rw [sumOwned_eq, sumOwned_eq, List.map_append, List.sum_append]; exact Int.add_zero _
  have e2 : sumOwed (s.thr ++ [⟨0, .idle⟩]) = sumOwed s.thr := by
    rw [sumOwed_eq, sumOwed_eq, List.map_append, List.sum_append]; exact Int.add_zero _
  refine ⟨fun h => ?_, fun x hx hpc => ?_, hI.tornLe, fun h => ?_, hI.rcPos⟩
  · show s.rc = _; rw [e1, e2]; exact hI.rcEq h
  · rcases List.mem_append.mp hx with hx | hx
    · exact hI.busyOwns x hx hpc
    · cases List.mem_singleton.mp hx; exact absurd rfl hpc
  · show sumOwned (s.thr ++ _) = 0; rw [e1]; exact hI.tornNone h

theorem owned_zero_of_sum (l : List Thr) (i : Nat) (t : Thr) (h : l[i]? = some t)
    (hz : sumOwned l = 0) : t.owned = 0 := by
  have := owned_le_sum l i t h; omega

/-- after teardown nobody owns a handle, so nobody is busy and nobody can act (except `spawn`) -/
theorem torn_all_idle (s : Sys) (hI : Inv s) (ht : s.torn = 1) (i : Nat) (t : Thr) (h : s.thr[i]? = some t) :
    t.owned = 0 ∧ t.pc = .idle := by
  have h0 := owned_zero_of_sum s.thr i t h (hI.tornNone ht)
  refine ⟨h0, ?_⟩
  by_cases hp : t.pc = .idle
  · exact hp
  · exact absurd h0 (Nat.ne_of_gt (hI.busyOwns t (List.mem_of_getElem? h) hp))


/-- a thread that owns a handle keeps the tree alive -/
theorem alive_of_owns {s : Sys} (hI : Inv s) {i : Nat} {t : Thr} (ht : s.thr[i]? = some t) (ho : 1 ≤ t.owned) :
    s.torn = 0 := by
  have h1 := hI.tornLe
  by_cases h : s.torn = 0
  · exact h
  · have := owned_zero_of_sum s.thr i t ht (hI.tornNone (by omega)); omega

/-- as `inv_setThr`, for a move that leaves the counter one ahead of the books and ends with `dec` -/
theorem inv_setThr_dec (s : Sys) (i : Nat) (t u : Thr) (s1 : Sys) (ht : s.thr[i]? = some t) (hI : Inv s)
    (h0 : s.torn = 0) (hs1 : s1.thr = s.thr.set i u ∧ s1.torn = s.torn)
    (hrc : s1.rc = s.rc - t.owned + u.owned - owed t.pc + owed u.pc + 1)
    (hbusy : u.pc ≠ .idle → u.owned ≥ 1) : Inv (dec s1) := by
  refine inv_dec s1 (hs1.2 ▸ h0) ?_ (hs1.1 ▸ busy_set i hI.busyOwns hbusy)
  rw [hs1.1, sumOwned_set _ _ _ u ht, sumOwed_set _ _ _ u ht, hrc, hI.rcEq h0]; omega

/-- a handle changes hands: the books do not notice -/
theorem inv_send {s : Sys} (hI : Inv s) {i j o : Nat} {u : Thr} (hi : s.thr[i]? = some ⟨o, .idle⟩) (ho : 1 ≤ o)
    (hj : j ≠ i) (hu : s.thr[j]? = some u) :
    Inv (setThr (setThr s i ⟨o - 1, .idle⟩) j ⟨u.owned + 1, u.pc⟩) := by
  have hu' : (s.thr.set i ⟨o - 1, .idle⟩)[j]? = some u := getElem?_set_other hu hj
  refine inv_of_balance hI (alive_of_owns hI hi ho) rfl ?_ (Int.le_refl _)
    (busy_set j (busy_set i hI.busyOwns nofun) (fun _ => Nat.le_add_left 1 _))
  show s.rc - (sumOwned ((s.thr.set i _).set j _) + sumOwed ((s.thr.set i _).set j _)) = _
  rw [sumOwned_set _ _ _ _ hu', sumOwed_set _ _ _ _ hu', sumOwned_set _ _ _ _ hi, sumOwed_set _ _ _ _ hi]
  dsimp only [owed]
  omega

/-- The protocol as a table.  `Row F s a t u b d`: in state `s`, action `a` is enabled for a thread in state `t`,
    takes it to `u` and the rest of the state to `b` (`thr` and `torn` are never touched); `d` says that the
    row ends with the decrement `dec`.  `spawn` and `send` are not rows: they do not move exactly one thread. -/
inductive Row (F : Facts) (s : Sys) : Act → Thr → Thr → Sys → Bool → Prop
  | clone (o : Nat) : 1 ≤ o → Row F s .clone ⟨o, .idle⟩ ⟨o + 1, .idle⟩ { s with rc := s.rc + 1 } false
  | dropH (o : Nat) : 1 ≤ o → Row F s .dropH ⟨o, .idle⟩ ⟨o - 1, .idle⟩ s true
  | rdMiss (o sl : Nat) (n : Bool) : 1 ≤ o → writeHeld s sl = false → s.slots[sl]? = some none →
      Row F s (.rdMiss sl n) ⟨o, .idle⟩ ⟨o, .missed sl n s.nextId⟩
        { s with nextId := s.nextId + 1, blocks := if n then s.nextId :: s.blocks else s.blocks } false
  | install (o sl : Nat) (n : Bool) (c : Nat) : writeHeld s sl = false → s.slots[sl]? = some none →
      Row F s .install ⟨o, .missed sl n c⟩ ⟨o, .reread sl⟩ { s with slots := s.slots.set sl (some (n, c)) } false
  | lose (o sl : Nat) (n : Bool) (c : Nat) (e : Bool × Nat) : writeHeld s sl = false → s.slots[sl]? = some (some e) →
      Row F s .lose ⟨o, .missed sl n c⟩ ⟨o, .holdW sl n c⟩ s false
  | addNode (o sl c : Nat) : Row F s .fetchAdd ⟨o, .holdW sl true c⟩ ⟨o, .added sl true c⟩ { s with rc := s.rc + F.compNode } false
  | addTok (o sl c : Nat) : Row F s .fetchAdd ⟨o, .holdW sl false c⟩ ⟨o, .added sl false c⟩ { s with rc := s.rc + F.compTok } false
  | dropNode (o sl c : Nat) : Row F s .dropCand ⟨o, .added sl true c⟩ ⟨o, .dropped1 sl c⟩ s true
  | dropTok (o sl c : Nat) : Row F s .dropCand ⟨o, .added sl false c⟩ ⟨o, .reread sl⟩ s true
  | freeCand (o sl c : Nat) : Row F s .freeCand ⟨o, .dropped1 sl c⟩ ⟨o, .reread sl⟩
      { s with blocks := s.blocks.filter (· != c), freed := s.freed ++ [c] } true
  | reread (o sl : Nat) (e : Bool × Nat) : writeHeld s sl = false → s.slots[sl]? = some (some e) →
      Row F s .reread ⟨o, .reread sl⟩ ⟨o, .idle⟩ s false

/-- the steps of the transition system, sorted by what they do to the threads -/
inductive Step (F : Facts) (s : Sys) (i : Nat) : Act → Sys → Prop
  | spawn : Step F s i .spawn { s with thr := s.thr ++ [⟨0, .idle⟩] }
  | send (o j : Nat) (u : Thr) : s.thr[i]? = some ⟨o, .idle⟩ → 1 ≤ o → j ≠ i → s.thr[j]? = some u →
      Step F s i (.send j) (setThr (setThr s i ⟨o - 1, .idle⟩) j ⟨u.owned + 1, u.pc⟩)
  | rdHit (o sl : Nat) (e : Bool × Nat) : s.thr[i]? = some ⟨o, .idle⟩ → 1 ≤ o → writeHeld s sl = false →
      s.slots[sl]? = some (some e) → Step F s i (.rdHit sl) s
  | row (a : Act) (t u : Thr) (b : Sys) (d : Bool) : s.thr[i]? = some t → Row F s a t u b d →
      Step F s i a (bif d then dec (setThr b i u) else setThr b i u)

theorem step_sound (F : Facts) (s s' : Sys) (i : Nat) (a : Act) (hs : step F s i a = some s') : Step F s i a s' := by
  unfold step at hs
  split at hs
  · cases hs
  rename_i t hti
  obtain ⟨o, pc⟩ := t
  -- `split` on the model's own match: one goal per alternative, in its order, where `cases a <;> cases pc` makes 72
  split at hs
  · cases hs; exact .spawn
  rotate_right
  · cases hs
  -- every alternative in between comes with the equation its pattern imposes on `pc`
  all_goals (rename_i hpc; cases hpc)
  · obtain ⟨ho, h2⟩ := Option.ite_none_right_eq_some.mp hs
    cases h2
    exact .row _ _ _ _ _ hti (.clone o ho)
  · obtain ⟨⟨ho, hj⟩, h2⟩ := Option.ite_none_right_eq_some.mp hs
    split at h2 <;> cases h2
    rename_i u hu
    exact .send o _ u hti ho hj hu
  · obtain ⟨ho, h2⟩ := Option.ite_none_right_eq_some.mp hs
    cases h2
    exact .row _ _ _ _ _ hti (.dropH o ho)
  · obtain ⟨⟨ho, hw⟩, h2⟩ := Option.ite_none_right_eq_some.mp hs
    split at h2 <;> cases h2
    rename_i e hsl
    exact .rdHit o _ e hti ho (by simpa using hw) hsl
  · obtain ⟨⟨ho, hw⟩, h2⟩ := Option.ite_none_right_eq_some.mp hs
    split at h2 <;> cases h2
    rename_i hsl
    exact .row _ _ _ _ _ hti (.rdMiss o _ _ ho (by simpa using hw) hsl)
  · obtain ⟨hw, h2⟩ := Option.ite_none_left_eq_some.mp hs
    split at h2 <;> cases h2
    rename_i hsl
    exact .row _ _ _ _ _ hti (.install o _ _ _ (eq_false_of_ne_true hw) hsl)
  · obtain ⟨hw, h2⟩ := Option.ite_none_left_eq_some.mp hs
    split at h2 <;> cases h2
    rename_i e hsl
    exact .row _ _ _ _ _ hti (.lose o _ _ _ e (eq_false_of_ne_true hw) hsl)
  · cases hs
    rename_i n _
    cases n
    · exact .row _ _ _ _ _ hti (.addTok o _ _)
    · exact .row _ _ _ _ _ hti (.addNode o _ _)
  · cases hs; exact .row _ _ _ _ _ hti (.dropNode o _ _)
  · cases hs; exact .row _ _ _ _ _ hti (.dropTok o _ _)
  · cases hs; exact .row _ _ _ _ _ hti (.freeCand o _ _)
  · obtain ⟨hw, h2⟩ := Option.ite_none_left_eq_some.mp hs
    split at h2 <;> cases h2
    rename_i e hsl
    exact .row _ _ _ _ _ hti (.reread o _ e (eq_false_of_ne_true hw) hsl)

variable {F : Facts} {s b : Sys} {a : Act} {t u : Thr} {d : Bool}

theorem Row.frame (h : Row F s a t u b d) : b.thr = s.thr ∧ b.torn = s.torn := by cases h <;> exact ⟨rfl, rfl⟩

/-- a thread that moves owns a handle -/
theorem Row.owns (h : Row F s a t u b d) (ht : t.pc ≠ .idle → 1 ≤ t.owned) : 1 ≤ t.owned := by
  cases h <;> first | assumption | exact ht PC.noConfusion

theorem Row.busy (h : Row F s a t u b d) (ht : 1 ≤ t.owned) : u.pc ≠ .idle → 1 ≤ u.owned := by
  cases h <;> first | exact fun _ => ht | exact fun h => absurd rfl h

/-- **a row changes the counter by as much as the thread's share of it** (handles owned plus decrements owed);
    a row that ends in `dec` leaves the counter one ahead, for `dec` to take off.  The only place where the two
    compensation amounts enter. -/
theorem Row.books (hN : F.compNode = 2) (hT : F.compTok = 1) (h : Row F s a t u b d) :
    b.rc - u.owned - owed u.pc = s.rc - t.owned - owed t.pc + (if d then 1 else 0) ∧ (d = false → s.rc ≤ b.rc) := by
  cases h <;> simp [owed, hN, hT] <;> omega

/-- a row leaves the slots alone or installs into an empty one, the latter never before a `dec` -/
theorem Row.slots (h : Row F s a t u b d) :
    b.slots = s.slots ∨ d = false ∧ ∃ sl e, s.slots[sl]? = some none ∧ b.slots = s.slots.set sl (some e) := by
  cases h <;> first | exact Or.inl rfl | exact Or.inr ⟨rfl, _, _, ‹_›, rfl⟩

/-- **the invariant is inductive**, given the compensation amounts extracted from the source -/
theorem inv_step (F : Facts) (hN : F.compNode = 2) (hT : F.compTok = 1)
    (s s' : Sys) (i : Nat) (a : Act) (hI : Inv s) (hs : step F s i a = some s') : Inv s' := by
  cases step_sound F s s' i a hs with
  | spawn => exact inv_spawn s hI
  | rdHit => exact hI
  | send o j u hi ho hj hu => exact inv_send hI hi ho hj hu
  | row a t u b d hi hr =>
    have hown := hr.owns (hI.busyOwns t (List.mem_of_getElem? hi))
    have h0 := alive_of_owns hI hi hown
    obtain ⟨e1, e2⟩ := hr.frame
    obtain ⟨hb, hpos⟩ := hr.books hN hT
    have e1' : (setThr b i u).thr = s.thr.set i u := congrArg (·.set i u) e1
    cases d with
    | false => exact inv_setThr s i t u b.rc _ hi hI h0 ⟨e1', rfl, e2⟩ (by simp at hb; omega) (hr.busy hown) (hpos rfl)
    | true => exact inv_setThr_dec s i t u _ hi hI h0 ⟨e1', e2⟩ (by show b.rc = _; simp at hb; omega) (hr.busy hown)

/-- the invariant holds in every reachable state -/
theorem inv_reachable (F : Facts) (hN : F.compNode = 2) (hT : F.compTok = 1) (s0 s : Sys) (h0 : Inv s0)
    (hr : Reachable F s0 s) : Inv s := by
  induction hr with
  | refl => exact h0
  | step s s' i a _ hs ih => exact inv_step F hN hT s s' i a ih hs

theorem inv_init (nslots nthreads owned : Nat) (hpos : 1 ≤ nthreads * owned) : Inv (Sys.init nslots nthreads owned) := by
  have e1 : ∀ n, sumOwned (List.replicate n (⟨owned, .idle⟩ : Thr)) = (n : Int) * owned := by
    intro n; induction n with
    | zero => simp [sumOwned]
    | succ n ih => simp [List.replicate_succ, sumOwned, ih]; rw [Int.add_mul]; omega
  have e2 : ∀ n, sumOwed (List.replicate n (⟨owned, .idle⟩ : Thr)) = 0 := by
    intro n; induction n with
    | zero => simp [sumOwed]
    | succ n ih => simp [List.replicate_succ, sumOwed, ih, owed]
  refine ⟨?_, ?_, by simp [Sys.init], by simp [Sys.init], ?_⟩
  · intro _; simp [Sys.init, e1, e2]
  · intro t ht hp
    simp only [Sys.init, List.mem_replicate] at ht
    rw [ht.2] at hp; simp at hp
  · intro _; simp only [Sys.init]; exact_mod_cast hpos

end Cst.Conc
