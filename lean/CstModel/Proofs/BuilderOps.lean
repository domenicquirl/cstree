/-
  Proofs/BuilderOps — what each operation of `Model/Builder` does: for the two caches the ways a request can go and
  the facts clients ask for, for every builder operation that can panic the exact condition under which it returns,
  together with the state it leaves.  The operations are chains of asserts in source order; `ite_error_eq_ok` turns
  such a chain into the conjunction of the conditions that let the call return.
-/
import CstModel.Proofs.Green
namespace Cst

/-! ### `NodeCache::token` -/

theorem Cache.token_hit {c : Cache} {d : TokData} {g : Green} (h : c.toks.lookup d = some g) : c.token d = (g, c) := by
  simp [Cache.token, h]

theorem Cache.token_miss {c : Cache} {d : TokData} (h : c.toks.lookup d = none) :
    c.token d = (.tok c.nextId d.1 d.2.1 d.2.2,
      { c with toks := (d, .tok c.nextId d.1 d.2.1 d.2.2) :: c.toks, nextId := c.nextId + 1 }) := by
  simp [Cache.token, h]

@[simp] theorem Cache.token_interner (c : Cache) (d : TokData) : (c.token d).2.interner = c.interner := by
  unfold Cache.token; split <;> rfl

@[simp] theorem Cache.token_nodes (c : Cache) (d : TokData) : (c.token d).2.nodes = c.nodes := by
  unfold Cache.token; split <;> rfl

theorem Cache.token_lookup (c : Cache) (d : TokData) : (c.token d).2.toks.lookup d = some (c.token d).1 := by
  cases h : c.toks.lookup d with
  | some g => rw [Cache.token_hit h]; exact h
  | none => rw [Cache.token_miss h]; simp

theorem Cache.token_toks (c : Cache) (d : TokData) {e : TokData × Green} (he : e ∈ (c.token d).2.toks) :
    e ∈ c.toks ∨ e = (d, .tok c.nextId d.1 d.2.1 d.2.2) := by
  cases h : c.toks.lookup d with
  | some g => rw [Cache.token_hit h] at he; exact .inl he
  | none => rw [Cache.token_miss h] at he; exact (List.mem_cons.mp he).symm

theorem Cache.token_lookup_stable {c : Cache} {d : TokData} {g : Green} (h : c.toks.lookup d = some g) (d' : TokData) :
    (c.token d').2.toks.lookup d = some g := by
  cases h' : c.toks.lookup d' with
  | some g' => rw [Cache.token_hit h']; exact h
  | none =>
    rw [Cache.token_miss h', List.lookup_cons]
    have : (d == d') = false := by
      cases e : d == d' with
      | false => rfl
      | true => rw [eq_of_beq e, h'] at h; cases h
    simp [this, h]

/-! ### `NodeCache::node` -/

/-- the test `get_cached_node` applies to an entry of the node cache -/
def Cfg.hit (cfg : Cfg) (kind : Nat) (cs : List Green) (e : Head × Green) : Bool :=
  e.1 == (kind, sumLen cs, cfg.H cs) && (!cfg.cmpChildren || Green.beqL e.2.children cs)

theorem Cfg.hit_iff {cfg : Cfg} {kind : Nat} {cs : List Green} {e : Head × Green} :
    cfg.hit kind cs e = true ↔
      e.1 = (kind, sumLen cs, cfg.H cs) ∧ (cfg.cmpChildren = true → Green.beqL e.2.children cs = true) := by
  cases h : cfg.cmpChildren <;> simp [Cfg.hit, h]

abbrev Cache.newNode (cfg : Cfg) (c : Cache) (kind : Nat) (cs : List Green) : Green :=
  .node c.nextId kind (sumLen cs) (cfg.H cs) cs

/-- the three ways `NodeCache::node` can go: answered from the cache, allocated and entered, allocated only -/
@[elab_as_elim] theorem Cache.node_cases {motive : Green × Cache → Prop} (cfg : Cfg) (c : Cache) (kind : Nat) (cs : List Green)
    (hit : ∀ e, cs.length ≤ cfg.threshold → c.nodes.find? (cfg.hit kind cs) = some e → motive (e.2, c))
    (miss : cs.length ≤ cfg.threshold → c.nodes.find? (cfg.hit kind cs) = none →
      motive (c.newNode cfg kind cs,
        { c with nodes := ((kind, sumLen cs, cfg.H cs), c.newNode cfg kind cs) :: c.nodes, nextId := c.nextId + 1 }))
    (big : cfg.threshold < cs.length → motive (c.newNode cfg kind cs, { c with nextId := c.nextId + 1 })) :
    motive (c.node cfg kind cs) := by
  have e : c.node cfg kind cs = if cs.length ≤ cfg.threshold then
      (match c.nodes.find? (cfg.hit kind cs) with
       | some e => (e.2, c)
       | none => (c.newNode cfg kind cs,
          { c with nodes := ((kind, sumLen cs, cfg.H cs), c.newNode cfg kind cs) :: c.nodes, nextId := c.nextId + 1 }))
      else (c.newNode cfg kind cs, { c with nextId := c.nextId + 1 }) := rfl
  rw [e]
  split
  · rename_i hs
    split
    · exact hit _ hs ‹_›
    · exact miss hs ‹_›
  · exact big (Nat.lt_of_not_le ‹_›)

theorem Cache.node_hit {cfg : Cfg} {c : Cache} {k : Nat} {cs : List Green} {e : Head × Green}
    (hsmall : cs.length ≤ cfg.threshold) (hf : c.nodes.find? (cfg.hit k cs) = some e) : c.node cfg k cs = (e.2, c) := by
  refine c.node_cases cfg k cs (fun e' _ hf' => ?_) (fun _ hf' => ?_) (fun hbig => absurd hsmall (Nat.not_le_of_gt hbig))
  · rw [hf] at hf'; cases hf'; rfl
  · rw [hf] at hf'; cases hf'

theorem Cache.node_big {cfg : Cfg} {c : Cache} {k : Nat} {cs : List Green} (hbig : cfg.threshold < cs.length) :
    c.node cfg k cs = (c.newNode cfg k cs, { c with nextId := c.nextId + 1 }) :=
  c.node_cases cfg k cs (fun _ h _ => absurd h (Nat.not_le_of_gt hbig)) (fun h _ => absurd h (Nat.not_le_of_gt hbig))
    (fun _ => rfl)

/-- the node a miss enters is found by the same request -/
theorem Cfg.hit_newNode (cfg : Cfg) (c : Cache) (k : Nat) (cs : List Green) :
    cfg.hit k cs ((k, sumLen cs, cfg.H cs), c.newNode cfg k cs) = true :=
  Cfg.hit_iff.mpr ⟨rfl, fun _ => Green.beqL_refl cs⟩

@[simp] theorem Cache.node_toks (cfg : Cfg) (c : Cache) (k : Nat) (cs : List Green) : (c.node cfg k cs).2.toks = c.toks := by
  refine c.node_cases cfg k cs ?_ ?_ ?_ <;> intros <;> rfl

@[simp] theorem Cache.node_interner (cfg : Cfg) (c : Cache) (k : Nat) (cs : List Green) :
    (c.node cfg k cs).2.interner = c.interner := by
  refine c.node_cases cfg k cs ?_ ?_ ?_ <;> intros <;> rfl

theorem Cache.node_nodes_grow (cfg : Cfg) (c : Cache) (k : Nat) (cs : List Green) {e : Head × Green} (he : e ∈ c.nodes) :
    e ∈ (c.node cfg k cs).2.nodes := by
  refine c.node_cases cfg k cs ?_ ?_ ?_ <;> intros <;> simp [he]

/-! ### the builder operations -/

def Builder.withInterner (b : Builder) (I : Interner) : Builder := { b with cache := { b.cache with interner := I } }

def Builder.pushTok (b : Builder) (d : TokData) : Builder :=
  { b with cache := (b.cache.token d).2, children := b.children ++ [(b.cache.token d).1] }

/-- the text a `token(k, s)` call records: the static text of `k` if there is one (`s` is then only compared, and only
    in debug builds) -/
def Cfg.tokText (cfg : Cfg) (k : Nat) (s : Text) : Text := (cfg.staticText k).getD s

/-- what `token(k, s)` does before it touches cache or stack, on either path: the key the token gets and the interner
    it is made over -/
inductive TokPrep (cfg : Cfg) (I : Interner) (k : Nat) (s : Text) : Option Nat → Interner → Prop
  | static {st : Text} : cfg.staticText k = some st → (cfg.debug = true → st = s) → TokPrep cfg I k s none I
  | interned {key : Nat} {I' : Interner} : cfg.staticText k = none → I.intern s = some (key, I') →
      TokPrep cfg I k s (some key) I'

theorem Builder.token_static {cfg : Cfg} {k : Nat} {st : Text} (h : cfg.staticText k = some st) (b : Builder) (s : Text) :
    b.token cfg k s = if cfg.debug && st != s then .error .staticMismatch else .ok (b.pushTok (k, none, blen st)) := by
  simp only [Builder.token, h]; rfl

theorem Builder.token_interned {cfg : Cfg} {k : Nat} (h : cfg.staticText k = none) (b : Builder) (s : Text) :
    b.token cfg k s = match b.cache.interner.intern s with
      | none => .error .internFailed
      | some (key, I) => .ok ((b.withInterner I).pushTok (k, some key, blen s)) := by
  simp only [Builder.token, h]; rfl

/-- an assert that has to pass for the call to return -/
theorem ite_error_eq_ok {α : Type} {c : Prop} [Decidable c] {p : Panic} {x : Except Panic α} {a : α} :
    (if c then .error p else x) = .ok a ↔ ¬ c ∧ x = .ok a := by
  by_cases h : c <;> simp [h]

theorem Builder.token_ok_iff {cfg : Cfg} {b b' : Builder} {k : Nat} {s : Text} :
    b.token cfg k s = .ok b' ↔ ∃ key I', TokPrep cfg b.cache.interner k s key I' ∧
      b' = (b.withInterner I').pushTok (k, key, blen (cfg.tokText k s)) := by
  constructor
  · intro h
    cases hst : cfg.staticText k with
    | some st =>
      rw [Builder.token_static hst, ite_error_eq_ok] at h
      exact ⟨none, _, .static hst (by simpa using h.1), by rw [Cfg.tokText, hst]; exact (Except.ok.inj h.2).symm⟩
    | none =>
      rw [Builder.token_interned hst] at h
      split at h
      · cases h
      · cases h; exact ⟨_, _, .interned hst ‹_›, by simp [Cfg.tokText, hst]⟩
  · rintro ⟨_, _, hp, rfl⟩
    cases hp with
    | static hst hd => rw [Builder.token_static hst, if_neg (by simpa using hd)]; simp [Cfg.tokText, hst]; rfl
    | interned hst hi => rw [Builder.token_interned hst, hi]; simp [Cfg.tokText, hst]

/-- which panic on which path: a kind with static text never reaches the interner -/
theorem Builder.token_error {cfg : Cfg} {b : Builder} {k : Nat} {s : Text} {p : Panic} (h : b.token cfg k s = .error p) :
    (p = .staticMismatch ∧ (cfg.staticText k).isSome) ∨ (p = .internFailed ∧ cfg.staticText k = none) := by
  cases hst : cfg.staticText k with
  | some st => rw [Builder.token_static hst] at h; split at h <;> cases h; exact .inl ⟨rfl, rfl⟩
  | none => rw [Builder.token_interned hst] at h; split at h <;> cases h; exact .inr ⟨rfl, rfl⟩

theorem Builder.staticToken_some {cfg : Cfg} {k : Nat} {st : Text} (h : cfg.staticText k = some st) (b : Builder) :
    b.staticToken cfg k = .ok (b.pushTok (k, none, blen st)) := by
  simp only [Builder.staticToken, h]; rfl

theorem Builder.staticToken_none {cfg : Cfg} {k : Nat} (h : cfg.staticText k = none) (b : Builder) :
    b.staticToken cfg k = .error .missingStatic := by
  simp only [Builder.staticToken, h]

theorem Builder.finishNode_ok_iff {cfg : Cfg} {b b' : Builder} :
    b.finishNode cfg = .ok b' ↔ ∃ k first, b.parents.getLast? = some (k, first) ∧ first ≤ b.children.length ∧
      b' = { cache := (b.cache.node cfg k (b.children.drop first)).2, parents := b.parents.dropLast,
             children := b.children.take first ++ [(b.cache.node cfg k (b.children.drop first)).1] } := by
  unfold Builder.finishNode
  cases b.parents.getLast? with
  | none => simp
  | some x =>
    simp only [ite_error_eq_ok, Except.ok.injEq, Nat.not_lt, Option.some.injEq, eq_comm (b := b')]
    exact ⟨fun h => ⟨x.1, x.2, rfl, h⟩, fun ⟨_, _, h, h'⟩ => h ▸ h'⟩

/-- `parents[parent_idx - 1].first_child ≤ child_idx`, the third assert of both checkpoint operations -/
def Builder.cpInside (ps : List (Nat × Nat)) (child : Nat) : Prop := ∀ x, ps.getLast? = some x → x.2 ≤ child

theorem Builder.revertTo_ok_iff {b b' : Builder} {cp : Checkpoint} :
    b.revertTo cp = .ok b' ↔ cp.1 ≤ b.parents.length ∧ cp.2 ≤ b.children.length ∧
      Builder.cpInside (b.parents.take cp.1) cp.2 ∧
      b' = { b with parents := b.parents.take cp.1, children := b.children.take cp.2 } := by
  unfold Builder.revertTo Builder.cpInside
  cases (b.parents.take cp.1).getLast? <;>
    simp only [ite_error_eq_ok, Except.ok.injEq, Nat.not_lt, Option.some.injEq, forall_eq', reduceCtorEq, false_implies,
      implies_true, true_and, eq_comm (b := b')]

theorem Builder.startNodeAt_ok_iff {b b' : Builder} {cp : Checkpoint} {k : Nat} :
    b.startNodeAt cp k = .ok b' ↔ cp.1 = b.parents.length ∧ cp.2 ≤ b.children.length ∧
      Builder.cpInside b.parents cp.2 ∧ b' = { b with parents := b.parents ++ [(k, cp.2)] } := by
  unfold Builder.startNodeAt Builder.cpInside
  cases b.parents.getLast? <;>
    simp only [ite_error_eq_ok, Except.ok.injEq, Nat.not_lt, Option.some.injEq, forall_eq', reduceCtorEq, false_implies,
      implies_true, true_and, Nat.le_antisymm_iff, and_assoc, eq_comm (b := b')]

theorem Builder.startNodeAt_unfinished {b : Builder} {cp : Checkpoint} (h : cp.1 < b.parents.length) (k : Nat) :
    b.startNodeAt cp k = .error .cpUnfinished := by
  simp [Builder.startNodeAt, Nat.not_lt_of_gt h, h]

theorem Builder.finish_ok_iff {b : Builder} {r : Green × Cache} :
    b.finish = .ok r ↔ ∃ g, b.children = [g] ∧ g.isNode = true ∧ r = (g, b.cache) := by
  unfold Builder.finish
  split
  · rename_i g hg
    cases hn : g.isNode
    · simp [hg, hn]
    · simp only [hg, ↓reduceIte, Except.ok.injEq, List.cons.injEq, and_true]
      exact ⟨fun h => ⟨g, rfl, hn, h.symm⟩, fun ⟨g', h1, _, h3⟩ => h1 ▸ h3.symm⟩
  · rename_i hne
    exact ⟨fun h => (by cases h), fun ⟨g, hg, _⟩ => absurd hg (hne g)⟩

end Cst
