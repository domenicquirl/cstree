/- the red layer: canonical offsets, the two routes, and the one relation `Ext` ("the cache grew
   legitimately") through which every operation is seen to keep every invariant -/
import CstModel.Model.Query
import CstModel.Proofs.Green
import CstModel.Proofs.Lists
namespace Cst

/-- offset of child `i` relative to the start of its parent -/
def offsetIn (cs : List Green) (i : Nat) : Nat := sumLen (cs.take i)

/-- the canonical start offset of a position: root 0; child `i` at parent offset + Σ lengths of
    the children before it -/
def canon : Green → Path → Option Nat
  | _, [] => some 0
  | g, i :: p =>
    match g.children[i]? with
    | some c => (canon c p).map (· + offsetIn g.children i)
    | none => none

theorem sumLen_append (a b : List Green) : sumLen (a ++ b) = sumLen a + sumLen b := by
  induction a with
  | nil => simp [sumLen]
  | cons x xs ih => simp [sumLen, ih]; omega

theorem offsetIn_zero (cs : List Green) : offsetIn cs 0 = 0 := rfl

theorem offsetIn_succ (cs : List Green) (i : Nat) (c : Green) (h : cs[i]? = some c) :
    offsetIn cs (i + 1) = offsetIn cs i + c.len := by
  simp [offsetIn, List.take_add_one, h, sumLen_append, sumLen]

theorem offsetIn_length (cs : List Green) (n : Nat) (h : cs.length ≤ n) : offsetIn cs n = sumLen cs := by
  simp [offsetIn, List.take_of_length_le h]

theorem C03.get_append (g : Green) (p q : Path) : Green.get g (p ++ q) = (Green.get g p).bind (fun t => Green.get t q) := by
  induction p generalizing g with
  | nil => simp [Green.get]
  | cons i p ih =>
    simp only [List.cons_append, Green.get]
    cases g.children[i]? with
    | none => simp
    | some c => simpa using ih c

theorem get_append_single (g : Green) (p : Path) (i : Nat) :
    Green.get g (p ++ [i]) = (Green.get g p).bind (fun t => t.children[i]?) := by
  rw [C03.get_append]
  congr 1; funext t
  rw [Green.get]; cases t.children[i]? <;> rfl

/-- `canon` one level down, as an equation: both directions of "child offset = parent offset + offset
    among the siblings" are read off it -/
theorem canon_snoc (g : Green) (p : Path) (i : Nat) :
    canon g (p ++ [i]) = (Green.get g p).bind fun t => (t.children[i]?).bind fun _ =>
      (canon g p).map (· + offsetIn t.children i) := by
  induction p generalizing g with
  | nil => simp only [List.nil_append, canon, Green.get, Option.bind_some]; cases g.children[i]? <;> rfl
  | cons j p ih =>
    simp only [List.cons_append, canon, Green.get]
    cases g.children[j]? with
    | none => rfl
    | some c =>
      simp only [ih c]
      cases Green.get c p with
      | none => rfl
      | some t =>
        cases h : t.children[i]? with
        | none => simp only [Option.bind_some, h, Option.bind_none, Option.map_none]
        | some _ =>
          simp only [Option.bind_some, h]
          cases canon c p with
          | none => rfl
          | some o => simp only [Option.map_some, Nat.add_right_comm]

theorem canon_append_single (g : Green) (p : Path) (i : Nat) (t c : Green) (o : Nat)
    (hg : Green.get g p = some t) (hc : t.children[i]? = some c) (ho : canon g p = some o) :
    canon g (p ++ [i]) = some (o + offsetIn t.children i) := by
  simp [canon_snoc, hg, hc, ho]

/-! ### the two routes, by index into the children -/

theorem childrenFrom_of_le {cs : List Green} {k : Nat} (h : cs.length ≤ k) (off : Nat) : childrenFrom cs k off = [] := by
  simp [childrenFrom, List.drop_eq_nil_of_le h, childrenFromGo]

theorem childrenFrom_cons {cs : List Green} {k : Nat} {c : Green} (h : cs[k]? = some c) (off : Nat) :
    childrenFrom cs k off = (c, k, off) :: childrenFrom cs (k + 1) (off + c.len) := by
  have hk := (List.getElem?_eq_some_iff.mp h).1
  simp [childrenFrom, List.drop_eq_getElem_cons hk, childrenFromGo, (List.getElem?_eq_some_iff.mp h).2]

theorem childrenTo_zero (cs : List Green) (off : Nat) : childrenTo cs 0 off = [] := by
  simp [childrenTo, childrenToGo]

theorem childrenTo_succ {cs : List Green} {k : Nat} {c : Green} (h : cs[k]? = some c) (off : Nat) :
    childrenTo cs (k + 1) off = (c, k, off - c.len) :: childrenTo cs k (off - c.len) := by
  have hk := (List.getElem?_eq_some_iff.mp h).1
  unfold childrenTo
  rw [List.take_add_one, h, Nat.min_eq_left hk, Nat.min_eq_left (Nat.le_of_lt hk), Option.toList_some,
    List.reverse_append, List.reverse_singleton, List.singleton_append]
  rfl

/-- an entry `(element, index, offset)` is right for children `cs` based at `base` -/
def EntryOk (cs : List Green) (base : Nat) (e : Green × Nat × Nat) : Prop :=
  cs[e.2.1]? = some e.1 ∧ e.2.2 = base + offsetIn cs e.2.1

/-- `children_from(start, offset)` is canonical when `offset` is the canonical offset of child `start` -/
theorem childrenFrom_ok (cs : List Green) (base : Nat) (n : Nat) : ∀ k, cs.length - k = n →
    ∀ e ∈ childrenFrom cs k (base + offsetIn cs k), EntryOk cs base e := by
  induction n with
  | zero => intro k hn; rw [childrenFrom_of_le (Nat.le_of_sub_eq_zero hn)]; exact fun _ h => nomatch h
  | succ n ih =>
    intro k hn
    obtain ⟨c, hc⟩ : ∃ c, cs[k]? = some c := ⟨_, List.getElem?_eq_getElem (Nat.lt_of_sub_eq_succ hn)⟩
    rw [childrenFrom_cons hc, Nat.add_assoc, ← offsetIn_succ cs k _ hc]
    intro e he
    rcases List.mem_cons.mp he with rfl | he
    · exact ⟨hc, rfl⟩
    · exact ih (k + 1) (by rw [Nat.sub_add_eq, hn]; rfl) e he

/-- `children_to(end, offset)` is canonical — and never underflows — when `offset` is the canonical
    offset of child `end` (the end of child `end - 1`) -/
theorem childrenTo_ok (cs : List Green) (base : Nat) (k : Nat) (hk : k ≤ cs.length) :
    ∀ e ∈ childrenTo cs k (base + offsetIn cs k), EntryOk cs base e := by
  induction k with
  | zero => rw [childrenTo_zero]; exact fun _ h => nomatch h
  | succ k ih =>
    obtain ⟨c, hc⟩ : ∃ c, cs[k]? = some c := ⟨_, List.getElem?_eq_getElem hk⟩
    rw [childrenTo_succ hc, offsetIn_succ cs k _ hc, ← Nat.add_assoc, Nat.add_sub_cancel]
    intro e he
    rcases List.mem_cons.mp he with rfl | he
    · exact ⟨hc, rfl⟩
    · exact ih (Nat.le_of_succ_le hk) e he

theorem firstNode_mem {l : List (Green × Nat × Nat)} {e : Green × Nat × Nat} (h : firstNode l = some e) : e ∈ l := by
  induction l with
  | nil => simp [firstNode] at h
  | cons x xs ih =>
    obtain ⟨g, i, o⟩ := x
    simp only [firstNode] at h
    split at h
    · cases h; simp
    · exact List.mem_cons_of_mem _ (ih h)

/-! ### the cache: slots are written once -/

theorem getOrAdd_root (r : Red) (p : Path) (i off : Nat) : (r.getOrAdd p i off).root = r.root := by
  unfold Red.getOrAdd; split <;> rfl

theorem green_getOrAdd (r : Red) (p : Path) (i off : Nat) (q : Path) : (r.getOrAdd p i off).green q = r.green q := by
  rw [Red.green, getOrAdd_root]; rfl

/-- what `get_or_add` does to the stored offsets: a filled slot keeps its offset, the empty slot
    `p ++ [i]` takes the caller's -/
theorem start_getOrAdd (r : Red) (p : Path) (i off : Nat) (q : Path) :
    (r.getOrAdd p i off).start q = (r.start q).or (if q = p ++ [i] then some off else none) := by
  unfold Red.getOrAdd Red.start
  by_cases hq : q = []
  · rw [if_pos hq, if_pos hq]; rfl
  · rw [if_neg hq]
    by_cases he : q = p ++ [i]
    · subst he
      rw [if_pos rfl]
      cases h : r.slots.lookup (p ++ [i]) with
      | none => simp only [if_neg hq, List.lookup_cons, show (p ++ [i] == p ++ [i]) = true from beq_iff_eq.mpr rfl]; rfl
      | some v => simp only [if_neg hq, h]; rfl
    · rw [if_neg he, Option.or_none]
      cases h : r.slots.lookup (p ++ [i]) with
      | none => simp only [if_neg hq, List.lookup_cons, beq_false_of_ne he]
      | some v => simp only [if_neg hq]

/-- every stored offset is the canonical one -/
def Canon (r : Red) : Prop := ∀ p o, (p, o) ∈ r.slots → canon r.root p = some o

theorem Canon.new (g : Green) : Canon (Red.new g) := by simp [Canon, Red.new]

theorem Canon.start {r : Red} (h : Canon r) {p : Path} {o : Nat} (hs : r.start p = some o) :
    canon r.root p = some o := by
  unfold Red.start at hs
  split at hs
  · next hp => subst hp; cases hs; rfl
  · exact h p o (lookup_mem hs)

theorem Canon.getOrAdd {r : Red} (h : Canon r) (p : Path) (i off : Nat)
    (hoff : canon r.root (p ++ [i]) = some off) : Canon (r.getOrAdd p i off) ∧ (r.getOrAdd p i off).root = r.root := by
  unfold Red.getOrAdd
  split
  · exact ⟨h, rfl⟩
  · refine ⟨?_, rfl⟩
    intro q o hm
    rcases List.mem_cons.mp hm with hm | hm
    · cases hm; exact hoff
    · exact h q o hm

mutual
/-- every node's stored length is the sum of its children's stored lengths -/
def LenOk : Green → Prop
  | .tok .. => True
  | .node _ _ l _ cs => l = sumLen cs ∧ LenOkL cs
def LenOkL : List Green → Prop
  | [] => True
  | g :: gs => LenOk g ∧ LenOkL gs
end

mutual
theorem LenOk_of_GWf {cfg : Cfg} {I : Interner} : (g : Green) → GWf cfg I g → LenOk g
  | .tok .., _ => trivial
  | .node _ _ _ _ cs, h => by
    simp only [GWf] at h
    exact ⟨h.1, LenOkL_of_GWfL cs h.2.2⟩
theorem LenOkL_of_GWfL {cfg : Cfg} {I : Interner} : (gs : List Green) → GWfL cfg I gs → LenOkL gs
  | [], _ => trivial
  | g :: gs, h => ⟨LenOk_of_GWf g h.1, LenOkL_of_GWfL gs h.2⟩
end

theorem LenOkL_getElem {cs : List Green} (h : LenOkL cs) {i : Nat} {c : Green} (hc : cs[i]? = some c) : LenOk c := by
  induction cs generalizing i with
  | nil => simp at hc
  | cons x xs ih =>
    cases i with
    | zero => simp at hc; subst hc; exact h.1
    | succ n => simp at hc; exact ih h.2 hc

theorem LenOk_children {g : Green} (h : LenOk g) : LenOkL g.children := by
  cases g with
  | tok _ _ _ _ => trivial
  | node _ _ _ _ cs => exact h.2

theorem LenOk_get {g : Green} (h : LenOk g) {p : Path} {t : Green} (ht : Green.get g p = some t) : LenOk t := by
  induction p generalizing g with
  | nil => simp [Green.get] at ht; subst ht; exact h
  | cons i p ih =>
    simp only [Green.get] at ht
    cases hc : g.children[i]? with
    | none => simp [hc] at ht
    | some c => simp only [hc] at ht; exact ih (LenOkL_getElem (LenOk_children h) hc) ht

theorem LenOk_len {g : Green} (h : LenOk g) (hn : g.isNode = true) : g.len = sumLen g.children := by
  cases g with
  | tok _ _ _ _ => simp [Green.isNode] at hn
  | node _ _ _ _ cs => exact h.1

theorem token_children {g : Green} (hn : g.isNode = false) : g.children = [] := by
  cases g with
  | tok _ _ _ _ => rfl
  | node _ _ _ _ _ => simp [Green.isNode] at hn

/-- the tree invariant carried through every history: canonical cache over a length-consistent
    green tree -/
structure RInv (r : Red) : Prop where
  canon : Canon r
  lens : LenOk r.root

theorem RInv.new (g : Green) (h : LenOk g) : RInv (Red.new g) := ⟨Canon.new g, h⟩

/-- `f` keeps the invariant and the green tree -/
def Keeps {α : Type} (f : Red → α × Red) : Prop := ∀ r, RInv r → RInv (f r).2 ∧ (f r).2.root = r.root

/-- position `q` has been materialised (or is the root) -/
def Mat (r : Red) (q : Path) : Prop := ∃ o, r.start q = some o

theorem Mat.root (r : Red) : Mat r [] := ⟨0, by simp [Red.start]⟩

theorem Mat.getOrAdd {r : Red} {q : Path} (h : Mat r q) (p : Path) (i off : Nat) : Mat (r.getOrAdd p i off) q := by
  obtain ⟨o, ho⟩ := h
  exact ⟨o, by simp [start_getOrAdd, ho]⟩

theorem Mat.getOrAdd_self (r : Red) (p : Path) (i off : Nat) : Mat (r.getOrAdd p i off) (p ++ [i]) := by
  unfold Mat; rw [start_getOrAdd]; cases r.start (p ++ [i]) <;> simp

theorem Mat.getOrAdd_inv {r : Red} {p : Path} {i off : Nat} {x : Path} (h : Mat (r.getOrAdd p i off) x) :
    Mat r x ∨ x = p ++ [i] := by
  obtain ⟨o, ho⟩ := h
  rw [start_getOrAdd, Option.or_eq_some_iff] at ho
  rcases ho with ho | ⟨_, ho⟩
  · exact .inl ⟨o, ho⟩
  · split at ho
    · next h => exact .inr h
    · cases ho

/-- the parent of every materialised position is materialised (handles are only ever created
    through a handle to their parent) -/
def Closed (r : Red) : Prop := ∀ q i, Mat r (q ++ [i]) → Mat r q

theorem Closed.new (g : Green) : Closed (Red.new g) := by
  intro q i ⟨o, ho⟩
  simp [Red.start, Red.new] at ho

theorem Closed.getOrAdd {r : Red} (hc : Closed r) {p : Path} (hp : Mat r p) (i off : Nat) :
    Closed (r.getOrAdd p i off) := by
  intro q j h
  rcases Mat.getOrAdd_inv h with h | h
  · exact (hc q j h).getOrAdd p i off
  · rw [List.append_inj_left' h rfl]; exact hp.getOrAdd p i off

theorem mat_of_range {r : Red} {p : Path} {se : Nat × Nat} (h : r.range p = some se) : Mat r p := by
  unfold Red.range at h
  cases hs : r.start p with
  | none => simp [hs] at h
  | some o => exact ⟨o, hs⟩

theorem range_of_mat {r : Red} {p : Path} {t : Green} (hm : Mat r p) (ht : r.green p = some t) :
    ∃ se, r.range p = some se := by
  obtain ⟨o, ho⟩ := hm
  exact ⟨(o, o + t.len), by simp [Red.range, ho, ht]⟩

/-! ### growth of the cache

`Grow r r'`: `r'` is `r` after some `get_or_add`s that stored canonical offsets (given that `r`'s are).  `Ext` adds
that each of them happened under a materialised parent.  Both are preorders; one `get_or_add` is a step; every
operation of the red layer is such a step or a composition of such steps.  So what an operation keeps is read off
`Ext` once, for all of them.

Two levels, because the indexed look-ups (`next_child_after` …) take any position, not a handle: without `Mat r p`
they cannot promise closedness, everything else they can.  `inv` is an equivalence and the hypotheses of the step are
themselves conditional (`RInv r → …`), so that every operation has its lemma without any hypothesis on `r`: an
implication would force `RInv r` onto every statement about an iterator, whose offset is only canonical if the tree
was when the iterator was made. -/

structure Grow (r r' : Red) : Prop where
  root : r'.root = r.root
  /-- a filled slot keeps its offset -/
  start : ∀ {q o}, r.start q = some o → r'.start q = some o
  /-- the new entries are canonical if the old ones are; nothing is taken away, hence "iff" -/
  inv : RInv r ↔ RInv r'

structure Ext (r r' : Red) : Prop extends Grow r r' where
  closed : Closed r → Closed r'

namespace Grow

theorem refl (r : Red) : Grow r r := ⟨rfl, id, .rfl⟩

theorem trans {a b c : Red} (h1 : Grow a b) (h2 : Grow b c) : Grow a c :=
  ⟨h2.root.trans h1.root, fun h => h2.start (h1.start h), h1.inv.trans h2.inv⟩

theorem mat {r r' : Red} (h : Grow r r') {q : Path} : Mat r q → Mat r' q := fun ⟨o, ho⟩ => ⟨o, h.start ho⟩

theorem green {r r' : Red} (h : Grow r r') (p : Path) : r'.green p = r.green p := by
  unfold Red.green; rw [h.root]

theorem range {r r' : Red} (h : Grow r r') {q : Path} {se : Nat × Nat} (hr : r.range q = some se) :
    r'.range q = some se := by
  unfold Red.range at hr ⊢
  rw [h.green]
  cases hs : r.start q with
  | none => rw [hs] at hr; cases hr
  | some o => rw [h.start hs]; rwa [hs] at hr

theorem keeps {r r' : Red} (h : Grow r r') (hr : RInv r) : RInv r' ∧ r'.root = r.root := ⟨h.inv.mp hr, h.root⟩

theorem getOrAdd {r : Red} {p : Path} {i off : Nat} (hoff : RInv r → canon r.root (p ++ [i]) = some off) :
    Grow r (r.getOrAdd p i off) where
  root := getOrAdd_root ..
  start h := by rw [start_getOrAdd, h]; rfl
  inv := by
    refine ⟨fun h => ⟨(h.canon.getOrAdd p i off (hoff h)).1, getOrAdd_root r p i off ▸ h.lens⟩, fun h => ⟨fun q o hm => ?_, ?_⟩⟩
    · rw [← getOrAdd_root r p i off]
      refine h.canon q o ?_
      unfold Red.getOrAdd; split
      · exact hm
      · exact List.mem_cons_of_mem _ hm
    · exact getOrAdd_root r p i off ▸ h.lens

end Grow

namespace Ext

theorem refl (r : Red) : Ext r r := ⟨.refl r, id⟩

theorem trans {a b c : Red} (h1 : Ext a b) (h2 : Ext b c) : Ext a c :=
  ⟨h1.toGrow.trans h2.toGrow, fun h => h2.closed (h1.closed h)⟩

end Ext

theorem Keeps.of_ext {α : Type} {f : Red → α × Red} (h : ∀ r, Ext r (f r).2) : Keeps f := fun r hr => (h r).keeps hr

/-! ### the hops: one `pick` from one of the two routes -/

theorem pick_path (r : Red) (p : Path) (cand : Option (Green × Nat × Nat)) :
    (r.pick p cand).1 = cand.map (fun e => p ++ [e.2.1]) := by
  cases cand <;> rfl

theorem pick_mat {r : Red} {p : Path} {cand : Option (Green × Nat × Nat)} {q : Path}
    (h : (r.pick p cand).1 = some q) : Mat (r.pick p cand).2 q := by
  cases cand with
  | none => cases h
  | some e => cases h; exact Mat.getOrAdd_self ..

theorem pick_closed {r : Red} (hc : Closed r) {p : Path} (hp : Mat r p) (cand : Option (Green × Nat × Nat)) :
    Closed (r.pick p cand).2 := by
  cases cand with
  | none => exact hc
  | some e => exact hc.getOrAdd hp _ _

/-- materialising an entry that is right for the children of the node at `p` -/
theorem pick_grow {r : Red} {p : Path} {t : Green} (hg : r.green p = some t) {cand : Option (Green × Nat × Nat)}
    (hc : RInv r → ∀ e, cand = some e → ∃ base, canon r.root p = some base ∧ EntryOk t.children base e) :
    Grow r (r.pick p cand).2 := by
  cases cand with
  | none => exact .refl r
  | some e =>
    refine Grow.getOrAdd fun h => ?_
    obtain ⟨base, hb, h1, h2⟩ := hc h e rfl
    rw [canon_append_single r.root p _ t _ base hg h1 hb, h2]

/-- what a hop from the node at `p` does besides returning a position: the cache grows, stays closed if `p` was a
    handle, and the position returned is materialised -/
structure IdxOk (r : Red) (p : Path) (x : Option Path × Red) : Prop where
  grow : Grow r x.2
  closed : Mat r p → Closed r → Closed x.2
  mat : ∀ {q}, x.1 = some q → Mat x.2 q

/-- the same when the hop is known to start from a handle -/
structure HopOk (r : Red) (x : Option Path × Red) : Prop where
  ext : Ext r x.2
  mat : ∀ {q}, x.1 = some q → Mat x.2 q

theorem IdxOk.none (r : Red) (p : Path) : IdxOk r p (none, r) := ⟨.refl r, fun _ => id, nofun⟩
theorem HopOk.none (r : Red) : HopOk r (none, r) := ⟨.refl r, nofun⟩

theorem IdxOk.hop {r : Red} {p : Path} {x : Option Path × Red} (h : IdxOk r p x) (hp : Closed r → Mat r p) : HopOk r x :=
  ⟨⟨h.grow, fun hc => h.closed (hp hc) hc⟩, h.mat⟩

/-- the two ways of choosing from a route -/
def Sel (sel : List (Green × Nat × Nat) → Option (Green × Nat × Nat)) : Prop := ∀ l e, sel l = some e → e ∈ l

theorem Sel.firstNode : Sel firstNode := fun _ _ => firstNode_mem
theorem Sel.head? : Sel List.head? := fun _ _ => List.mem_of_head?

theorem pickFrom_ok {sel} (hsel : Sel sel) {r : Red} {p : Path} {t : Green} (hg : r.green p = some t) {k off : Nat}
    (hoff : RInv r → ∃ base, canon r.root p = some base ∧ off = base + offsetIn t.children k) :
    IdxOk r p (r.pick p (sel (childrenFrom t.children k off))) where
  grow := pick_grow hg fun h e he => by
    obtain ⟨base, hb, rfl⟩ := hoff h
    exact ⟨base, hb, childrenFrom_ok _ base _ k rfl e (hsel _ _ he)⟩
  closed hp hc := pick_closed hc hp _
  mat := pick_mat

theorem pickTo_ok {sel} (hsel : Sel sel) {r : Red} {p : Path} {t : Green} (hg : r.green p = some t) {k off : Nat}
    (hoff : RInv r → t.children = [] ∨
      ∃ base, canon r.root p = some base ∧ k ≤ t.children.length ∧ off = base + offsetIn t.children k) :
    IdxOk r p (r.pick p (sel (childrenTo t.children k off))) where
  grow := pick_grow hg fun h e he => by
    rcases hoff h with h0 | ⟨base, hb, hk, rfl⟩
    · rw [h0, childrenTo, List.take_nil] at he; cases hsel _ _ he
    · exact ⟨base, hb, childrenTo_ok _ base k hk e (hsel _ _ he)⟩
  closed hp hc := pick_closed hc hp _
  mat := pick_mat

/-- where a node ends: its own end is the canonical offset behind its last child -/
theorem node_end {r : Red} (h : RInv r) {p : Path} {g : Green} (hg : r.green p = some g) :
    g.children = [] ∨ g.len = offsetIn g.children g.children.length := by
  cases hn : g.isNode with
  | false => exact .inl (token_children hn)
  | true => exact .inr (by rw [offsetIn_length _ _ (Nat.le_refl _)]; exact LenOk_len (LenOk_get h.lens hg) hn)

section hops
variable (r : Red) (p : Path)

private theorem down_ok {sel} (hsel : Sel sel) {g : Green} {o : Nat} (hg : r.green p = some g) (hs : r.start p = some o) :
    HopOk r (r.pick p (sel (childrenFrom g.children 0 o))) :=
  (pickFrom_ok hsel hg fun h => ⟨o, h.canon.start hs, rfl⟩).hop fun _ => ⟨o, hs⟩

private theorem downBack_ok {sel} (hsel : Sel sel) {g : Green} {o : Nat} (hg : r.green p = some g) (hs : r.start p = some o) :
    HopOk r (r.pick p (sel (childrenTo g.children g.children.length (o + g.len)))) :=
  (pickTo_ok hsel hg fun h => (node_end h hg).imp id fun he => ⟨o, h.canon.start hs, Nat.le_refl _, by rw [he]⟩).hop
    fun _ => ⟨o, hs⟩

theorem firstChild_ok : HopOk r (r.firstChild p) := by
  unfold Red.firstChild; split
  · next hg hs => exact down_ok r p Sel.firstNode hg hs
  · exact .none r

theorem firstChildOrToken_ok : HopOk r (r.firstChildOrToken p) := by
  unfold Red.firstChildOrToken; split
  · next hg hs => exact down_ok r p Sel.head? hg hs
  · exact .none r

theorem lastChild_ok : HopOk r (r.lastChild p) := by
  unfold Red.lastChild; split
  · next hg hs => exact downBack_ok r p Sel.firstNode hg hs
  · exact .none r

theorem lastChildOrToken_ok : HopOk r (r.lastChildOrToken p) := by
  unfold Red.lastChildOrToken; split
  · next hg hs => exact downBack_ok r p Sel.head? hg hs
  · exact .none r

end hops

/-- the documented argument of the indexed look-ups: `offset` is the canonical offset of child
    `n + 1` (= the end of child `n`) resp. of child `n` (= its start) of the node at `p` -/
def DocArg (r : Red) (p : Path) (idx off : Nat) : Prop :=
  ∀ g base, r.green p = some g → canon r.root p = some base → off = base + offsetIn g.children idx

section indexed
variable {r : Red} {p : Path} {n off : Nat}

theorem nextChildAfter_ok (hd : RInv r → (∃ o, canon r.root p = some o) ∧ DocArg r p (n + 1) off) :
    IdxOk r p (r.nextChildAfter p n off) := by
  unfold Red.nextChildAfter; split
  · next g hg => exact pickFrom_ok Sel.firstNode hg fun h => (hd h).1.imp fun o ho => ⟨ho, (hd h).2 g o hg ho⟩
  · exact .none r p

theorem nextChildOrTokenAfter_ok (hd : RInv r → (∃ o, canon r.root p = some o) ∧ DocArg r p (n + 1) off) :
    IdxOk r p (r.nextChildOrTokenAfter p n off) := by
  unfold Red.nextChildOrTokenAfter; split
  · next g hg => exact pickFrom_ok Sel.head? hg fun h => (hd h).1.imp fun o ho => ⟨ho, (hd h).2 g o hg ho⟩
  · exact .none r p

theorem prevChildBefore_ok (hd : RInv r → (∃ o, canon r.root p = some o) ∧ DocArg r p n off ∧
      ∀ g, r.green p = some g → n ≤ g.children.length) :
    IdxOk r p (r.prevChildBefore p n off) := by
  unfold Red.prevChildBefore; split
  · next g hg =>
    exact pickTo_ok Sel.firstNode hg fun h => .inr ((hd h).1.imp fun o ho => ⟨ho, (hd h).2.2 g hg, (hd h).2.1 g o hg ho⟩)
  · exact .none r p

theorem prevChildOrTokenBefore_ok (hd : RInv r → (∃ o, canon r.root p = some o) ∧ DocArg r p n off ∧
      ∀ g, r.green p = some g → n ≤ g.children.length) :
    IdxOk r p (r.prevChildOrTokenBefore p n off) := by
  unfold Red.prevChildOrTokenBefore; split
  · next g hg =>
    exact pickTo_ok Sel.head? hg fun h => .inr ((hd h).1.imp fun o ho => ⟨ho, (hd h).2.2 g hg, (hd h).2.1 g o hg ho⟩)
  · exact .none r p

end indexed

theorem split_spec {p q : Path} {i : Nat} (h : Red.split p = some (q, i)) : p = q ++ [i] := by
  unfold Red.split at h
  cases hl : p.getLast? with
  | none => simp [hl] at h
  | some j =>
    simp only [hl, Option.some.injEq, Prod.mk.injEq] at h
    obtain ⟨rfl, rfl⟩ := h
    obtain ⟨ys, rfl⟩ := List.getLast?_eq_some_iff.mp hl
    simp

/-- everything the sibling hops need to know about a materialised non-root element: its start and its end are
    the documented arguments of the indexed look-ups on its parent -/
theorem sibling_facts {r : Red} (h : RInv r) {q : Path} {i s e : Nat} (hr : r.range (q ++ [i]) = some (s, e)) :
    (∃ o, canon r.root q = some o) ∧ DocArg r q (i + 1) e ∧ DocArg r q i s ∧
      ∀ g, r.green q = some g → i ≤ g.children.length := by
  unfold Red.range at hr
  cases hs : r.start (q ++ [i]) with
  | none => simp [hs] at hr
  | some o =>
    cases hg : r.green (q ++ [i]) with
    | none => simp [hs, hg] at hr
    | some c =>
      simp only [hs, hg, Option.some.injEq, Prod.mk.injEq] at hr
      obtain ⟨rfl, rfl⟩ := hr
      have hc := h.canon.start hs
      rw [Red.green, get_append_single] at hg
      rw [canon_snoc] at hc
      cases ht : Green.get r.root q with
      | none => simp [ht] at hg
      | some t =>
        simp only [ht, Option.bind_some] at hg hc
        simp only [hg, Option.bind_some, Option.map_eq_some_iff] at hc
        obtain ⟨base, hb, rfl⟩ := hc
        have hg' : ∀ g, r.green q = some g → g = t := fun g h => Option.some.inj (h.symm.trans ht)
        have hb' : ∀ b, canon r.root q = some b → b = base := fun b h => Option.some.inj (h.symm.trans hb)
        refine ⟨⟨base, hb⟩, fun g b h1 h2 => ?_, fun g b h1 h2 => ?_, fun g h1 => ?_⟩
        · cases hg' g h1; cases hb' b h2; rw [offsetIn_succ _ _ _ hg, Nat.add_assoc]
        · cases hg' g h1; cases hb' b h2; rfl
        · cases hg' g h1; exact Nat.le_of_lt (List.getElem?_eq_some_iff.mp hg).1

section siblings
variable (r : Red) (p : Path)

private theorem sib_mat {q : Path} {i : Nat} {se : Nat × Nat} (hr : r.range (q ++ [i]) = some se) (hc : Closed r) : Mat r q :=
  hc q i (mat_of_range hr)

theorem nextSibling_ok : HopOk r (r.nextSibling p) := by
  unfold Red.nextSibling; split
  · next q i s e hsp hr =>
    cases split_spec hsp
    exact (nextChildAfter_ok fun h => ⟨(sibling_facts h hr).1, (sibling_facts h hr).2.1⟩).hop (sib_mat r hr)
  · exact .none r

theorem nextSiblingOrToken_ok : HopOk r (r.nextSiblingOrToken p) := by
  unfold Red.nextSiblingOrToken; split
  · next q i s e hsp hr =>
    cases split_spec hsp
    exact (nextChildOrTokenAfter_ok fun h => ⟨(sibling_facts h hr).1, (sibling_facts h hr).2.1⟩).hop (sib_mat r hr)
  · exact .none r

theorem prevSibling_ok : HopOk r (r.prevSibling p) := by
  unfold Red.prevSibling; split
  · next q i s e hsp hr =>
    cases split_spec hsp
    exact (prevChildBefore_ok fun h => ⟨(sibling_facts h hr).1, (sibling_facts h hr).2.2⟩).hop (sib_mat r hr)
  · exact .none r

theorem prevSiblingOrToken_ok : HopOk r (r.prevSiblingOrToken p) := by
  unfold Red.prevSiblingOrToken; split
  · next q i s e hsp hr =>
    cases split_spec hsp
    exact (prevChildOrTokenBefore_ok fun h => ⟨(sibling_facts h hr).1, (sibling_facts h hr).2.2⟩).hop (sib_mat r hr)
  · exact .none r

end siblings

/-! ### `iter::successors` chains and walks built from steps -/

theorem Ext.of_eq {α : Type} {r : Red} {x : α × Red} (h : Ext r x.2) {a : α} {r' : Red} (e : x = (a, r')) : Ext r r' := by
  subst e; exact h

theorem chain_ext {step : Red → Path → Option Path × Red} (hstep : ∀ r p, Ext r (step r p).2) :
    ∀ n r p, Ext r (Red.chain step n r p).2
  | 0, r, _ => .refl r
  | n + 1, r, p => by
    unfold Red.chain; split
    · next q r' h => exact ((hstep r p).of_eq h).trans (chain_ext hstep n r' q)
    · next r' h => exact (hstep r p).of_eq h

theorem siblings_ext (r : Red) (p : Path) (next : Bool) : Ext r (r.siblings p next).2 := by
  cases next
  · exact chain_ext (fun r p => (prevSibling_ok r p).ext) ..
  · exact chain_ext (fun r p => (nextSibling_ok r p).ext) ..

theorem siblingsWithTokens_ext (r : Red) (p : Path) (next : Bool) : Ext r (r.siblingsWithTokens p next).2 := by
  cases next
  · exact chain_ext (fun r p => (prevSiblingOrToken_ok r p).ext) ..
  · exact chain_ext (fun r p => (nextSiblingOrToken_ok r p).ext) ..

theorem walk_ext {next : Red → Red.WE → Option Red.WE × Red} (hnext : ∀ r e, Ext r (next r e).2) :
    ∀ n r e, Ext r (Red.walk next n r e).2
  | 0, r, _ => .refl r
  | n + 1, r, e => by
    unfold Red.walk; split
    · next e' r' h => exact ((hnext r e).of_eq h).trans (walk_ext hnext n r' e')
    · next r' h => exact (hnext r e).of_eq h

theorem walkNextT_ext (start : Path) (r : Red) (e : Red.WE) : Ext r (Red.walkNextT start r e).2 := by
  unfold Red.walkNextT
  split
  · split
    · split
      · split
        · next h => exact (firstChildOrToken_ok r _).ext.of_eq h
        · next h => exact (firstChildOrToken_ok r _).ext.of_eq h
      · exact .refl r
    · exact .refl r
  · split
    · exact .refl r
    · split
      · next h => exact (nextSiblingOrToken_ok r _).ext.of_eq h
      · next h => split <;> exact (nextSiblingOrToken_ok r _).ext.of_eq h

theorem walkNextN_ext (start : Path) (r : Red) (e : Red.WE) : Ext r (Red.walkNextN start r e).2 := by
  unfold Red.walkNextN
  split
  · split
    · next h => exact (firstChild_ok r _).ext.of_eq h
    · next h => exact (firstChild_ok r _).ext.of_eq h
  · split
    · exact .refl r
    · split
      · next h => exact (nextSibling_ok r _).ext.of_eq h
      · next h => split <;> exact (nextSibling_ok r _).ext.of_eq h

theorem preorderWithTokens_ext (r : Red) (p : Path) : Ext r (r.preorderWithTokens p).2 := walk_ext (walkNextT_ext p) ..
theorem preorder_ext (r : Red) (p : Path) : Ext r (r.preorder p).2 := walk_ext (walkNextN_ext p) ..
theorem descendantsWithTokens_ext (r : Red) (p : Path) : Ext r (r.descendantsWithTokens p).2 := preorderWithTokens_ext r p
theorem descendants_ext (r : Red) (p : Path) : Ext r (r.descendants p).2 := preorder_ext r p

/-! ### the child iterators -/

/-- iterator invariant: the parent is materialised, the remaining children are the tail from `index`, and
    (on a canonical tree) the running offset is the canonical offset of child `index` -/
def ItOk (r : Red) (it : Red.It) : Prop :=
  Mat r it.parent ∧ ∃ g, r.green it.parent = some g ∧ it.rest = g.children.drop it.index ∧
    (RInv r → ∃ base, canon r.root it.parent = some base ∧ it.offset = base + offsetIn g.children it.index)

theorem ItOk.ext {r r' : Red} {it : Red.It} (h : ItOk r it) (he : Ext r r') : ItOk r' it := by
  obtain ⟨hm, g, hg, hr, ho⟩ := h
  exact ⟨he.mat hm, g, by rw [he.green]; exact hg, hr, fun h' => he.root ▸ ho (he.inv.mpr h')⟩

theorem iterNew_ok {r : Red} {p : Path} {it : Red.It} (hi : Red.iterNew r p = some it) : ItOk r it := by
  unfold Red.iterNew at hi
  split at hi
  · next g o hg hs => cases hi; exact ⟨⟨o, hs⟩, g, hg, rfl, fun h => ⟨o, h.canon.start hs, rfl⟩⟩
  · cases hi

/-- handing out the next child -/
theorem ItOk.step {r : Red} {it : Red.It} (hi : ItOk r it) {c : Green} {rest : List Green} (hr : it.rest = c :: rest) :
    Ext r (r.getOrAdd it.parent it.index it.offset) ∧
    ItOk r { it with rest := rest, index := it.index + 1, offset := it.offset + c.len } ∧
    r.green (it.parent ++ [it.index]) = some c := by
  obtain ⟨hm, g, hg, hrest, hoff⟩ := hi
  have hci : g.children[it.index]? = some c := by rw [← List.head?_drop, ← hrest, hr]; rfl
  refine ⟨⟨Grow.getOrAdd fun h => ?_, fun hc => hc.getOrAdd hm _ _⟩, ⟨hm, g, hg, ?_, fun h => ?_⟩, ?_⟩
  · obtain ⟨base, hb, ho⟩ := hoff h
    rw [canon_append_single _ _ _ g c base hg hci hb, ho]
  · rw [← List.tail_drop, ← hrest, hr]; rfl
  · obtain ⟨base, hb, ho⟩ := hoff h
    exact ⟨base, hb, by simp only [offsetIn_succ _ _ _ hci, ho]; omega⟩
  · rw [Red.green, get_append_single]; rw [Red.green] at hg; simp [hg, hci]

theorem nextElem_ext {r : Red} {it : Red.It} (hi : ItOk r it) :
    Ext r (it.nextElem r).2.2 ∧ ItOk (it.nextElem r).2.2 (it.nextElem r).2.1 := by
  unfold Red.It.nextElem
  split
  · exact ⟨.refl r, hi⟩
  · next hr => exact ⟨(hi.step hr).1, (hi.step hr).2.1.ext (hi.step hr).1⟩

theorem nextNode_ext {r : Red} : ∀ (fuel : Nat) {it : Red.It}, ItOk r it →
    Ext r (it.nextNode r fuel).2.2 ∧ ItOk (it.nextNode r fuel).2.2 (it.nextNode r fuel).2.1
  | 0, _, hi => ⟨.refl r, hi⟩
  | n + 1, it, hi => by
    unfold Red.It.nextNode
    split
    · exact ⟨.refl r, hi⟩
    · next hr =>
      simp only
      split
      · exact ⟨(hi.step hr).1, (hi.step hr).2.1.ext (hi.step hr).1⟩
      · exact nextNode_ext n (hi.step hr).2.1

theorem collectElems_ext : ∀ (fuel : Nat) {it : Red.It} {r : Red}, ItOk r it → Ext r (Red.collectElems it r fuel).2
  | 0, _, r, _ => .refl r
  | n + 1, it, r, hi => by
    have hs := nextElem_ext hi
    unfold Red.collectElems; split
    · next h => rw [h] at hs; exact hs.1.trans (collectElems_ext n hs.2)
    · next h => rw [h] at hs; exact hs.1

theorem collectNodes_ext : ∀ (fuel : Nat) {it : Red.It} {r : Red}, ItOk r it → Ext r (Red.collectNodes it r fuel).2
  | 0, _, r, _ => .refl r
  | n + 1, it, r, hi => by
    have hs := nextNode_ext (it.rest.length + 1) hi
    unfold Red.collectNodes; split
    · next h => rw [h] at hs; exact hs.1.trans (collectNodes_ext n hs.2)
    · next h => rw [h] at hs; exact hs.1

theorem childrenWithTokens_ext (r : Red) (p : Path) : Ext r (r.childrenWithTokens p).2 := by
  unfold Red.childrenWithTokens; split
  · next hi => exact collectElems_ext _ (iterNew_ok hi)
  · exact .refl r

theorem children_ext (r : Red) (p : Path) : Ext r (r.children p).2 := by
  unfold Red.children; split
  · next hi => exact collectNodes_ext _ (iterNew_ok hi)
  · exact .refl r

end Cst
