/-
  Proofs/WalkN — the nodes-only walk `preorder()` (`walkNextN`: `first_child` / `next_sibling`) is the
  recursive preorder over the *node* children of the sub-tree.
-/
import CstModel.Proofs.Walk
namespace Cst
open Red

/-- index of the first node among `cs`, counting from `i` -/
def firstNodeIdx : List Green → Nat → Option Nat
  | [], _ => none
  | c :: cs, i => if c.isNode then some i else firstNodeIdx cs (i + 1)

/-- first node child of the node at `q` with index at least `i` -/
def nodeFrom (g : Green) (q : Path) (i : Nat) : Option Nat :=
  match Green.get g q with
  | some t => firstNodeIdx (t.children.drop i) i
  | none => none

/-- pure successor of the nodes-only walk -/
def nextN (g : Green) (start : Path) : WE → Option WE
  | .enter p =>
    match nodeFrom g p 0 with
    | some j => some (.enter (p ++ [j]))
    | none => some (.leave p)
  | .leave p =>
    if p = start then none else
    match p.getLast? with
    | none => none
    | some i =>
      match nodeFrom g p.dropLast (i + 1) with
      | some j => some (.enter (p.dropLast ++ [j]))
      | none => some (.leave p.dropLast)

def walkNN (g : Green) (start : Path) : Nat → WE → List WE
  | 0, _ => []
  | n + 1, e => e :: match nextN g start e with
    | none => []
    | some e' => walkNN g start n e'

mutual
/-- the recursive nodes-only preorder -/
def preN (p : Path) : Green → List WE
  | .tok .. => []
  | .node _ _ _ _ cs => .enter p :: (preNL p 0 cs ++ [.leave p])
def preNL (p : Path) (i : Nat) : List Green → List WE
  | [] => []
  | c :: cs => preN (p ++ [i]) c ++ preNL p (i + 1) cs
end

theorem firstNode_idx (rest : List Green) (i o : Nat) :
    (firstNode (childrenFromGo rest i o)).map (fun e => e.2.1) = firstNodeIdx rest i := by
  induction rest generalizing i o with
  | nil => rfl
  | cons c rest ih =>
    simp only [childrenFromGo, firstNode, firstNodeIdx]
    split
    · rfl
    · exact ih (i + 1) (o + c.len)

theorem firstNode_path (p : Path) (cs : List Green) (k off : Nat) :
    (firstNode (childrenFrom cs k off)).map (fun e => p ++ [e.2.1]) = (firstNodeIdx (cs.drop k) k).map (fun j => p ++ [j]) := by
  rw [← firstNode_idx (cs.drop k) k off, Option.map_map]; rfl

/-- `first_child` is the first node child -/
theorem firstChild_path (r : Red) (p : Path) (t : Green) (o : Nat) (hg : r.green p = some t) (hs : r.start p = some o) :
    (r.firstChild p).1 = (firstNodeIdx t.children 0).map (fun j => p ++ [j]) := by
  simp only [Red.firstChild, hg, hs, pick_path, firstNode_path, List.drop_zero]

/-- `next_sibling` is the next node child of the parent -/
theorem nextSibling_path (r : Red) (q : Path) (i : Nat) (tq : Green) (se : Nat × Nat)
    (hq : r.green q = some tq) (hr : r.range (q ++ [i]) = some se) :
    (r.nextSibling (q ++ [i])).1 = (firstNodeIdx (tq.children.drop (i + 1)) (i + 1)).map (fun j => q ++ [j]) := by
  simp only [Red.nextSibling, split_snoc, hr, Red.nextChildAfter, hq, pick_path, firstNode_path]

/-- what `firstNodeIdx` finds lies in the list -/
theorem firstNodeIdx_lt {cs : List Green} {i j : Nat} (h : firstNodeIdx cs i = some j) : i ≤ j ∧ j < i + cs.length := by
  induction cs generalizing i with
  | nil => cases h
  | cons c cs ih =>
    rw [firstNodeIdx] at h
    split at h
    · cases h; exact ⟨Nat.le_refl _, Nat.lt_add_of_pos_right (Nat.succ_pos _)⟩
    · have := ih h
      exact ⟨Nat.le_of_succ_le this.1, by rw [List.length_cons]; omega⟩

theorem nodeFrom_lt {g : Green} {q : Path} {t : Green} (hq : Green.get g q = some t) {i j : Nat}
    (h : nodeFrom g q i = some j) : j < t.children.length := by
  rw [nodeFrom, hq] at h
  have := firstNodeIdx_lt h
  rw [List.length_drop] at this
  omega

/-- **simulation step** of the nodes-only walk -/
theorem walkNextN_sim (start : Path) (r : Red) (hcl : Closed r) (e : WE) (he : Live r e.path) :
    (walkNextN start r e).1 = nextN r.root start e ∧
    ∀ e', (walkNextN start r e).1 = some e' → Live (walkNextN start r e).2 e'.path := by
  cases e with
  | enter p =>
    replace he : Live r p := he
    obtain ⟨t, ht⟩ := he.green
    obtain ⟨o, ho⟩ := he.mat
    have hk := firstChild_ok r p
    have hp := firstChild_path r p t o ht ho
    have hnf : nodeFrom r.root p 0 = firstNodeIdx t.children 0 := by rw [nodeFrom, show Green.get r.root p = some t from ht]; rfl
    simp only [walkNextN, nextN]
    generalize r.firstChild p = x at hk hp
    obtain ⟨res, r1⟩ := x
    rw [← hnf] at hp
    cases hf : nodeFrom r.root p 0 with
    | none => rw [hf] at hp; cases hp; exact ⟨rfl, by rintro _ ⟨⟩; exact he.ext hk.ext⟩
    | some j =>
      rw [hf] at hp; cases hp
      exact ⟨rfl, by rintro _ ⟨⟩; exact .child (hk.mat rfl) (by rw [hk.ext.green]; exact ht) (nodeFrom_lt ht hf)⟩
  | leave p =>
    simp only [walkNextN, nextN]
    split
    · exact ⟨rfl, nofun⟩
    · cases hl : p.getLast? with
      | none =>
        cases List.getLast?_eq_none_iff.mp hl
        exact ⟨rfl, nofun⟩
      | some i =>
        obtain ⟨q, rfl⟩ := List.getLast?_eq_some_iff.mp hl
        replace he : Live r (q ++ [i]) := he
        obtain ⟨tq, htq, hi⟩ := he.parent
        obtain ⟨se, hse⟩ := he
        have hk := nextSibling_ok r (q ++ [i])
        have hp := nextSibling_path r q i tq se htq hse
        have hnf : nodeFrom r.root q (i + 1) = firstNodeIdx (tq.children.drop (i + 1)) (i + 1) := by
          rw [nodeFrom, show Green.get r.root q = some tq from htq]
        simp only [List.dropLast_concat, C03.parent_child]
        generalize r.nextSibling (q ++ [i]) = x at hk hp
        obtain ⟨res, r1⟩ := x
        have hq1 : r1.green q = some tq := by rw [hk.ext.green]; exact htq
        rw [← hnf] at hp
        cases hf : nodeFrom r.root q (i + 1) with
        | none =>
          rw [hf] at hp; cases hp
          exact ⟨rfl, by rintro _ ⟨⟩; exact range_of_mat (hk.ext.mat (hcl q i (mat_of_range hse))) hq1⟩
        | some j =>
          rw [hf] at hp; cases hp
          exact ⟨rfl, by rintro _ ⟨⟩; exact .child (hk.mat rfl) hq1 (nodeFrom_lt htq hf)⟩

theorem walkN_sim (start : Path) (n : Nat) (r : Red) (hcl : Closed r) (e : WE) (he : Live r e.path) :
    (Red.walk (walkNextN start) n r e).1 = walkNN r.root start n e := by
  induction n generalizing r e with
  | zero => rfl
  | succ n ih =>
    have hs := walkNextN_sim start r hcl e he
    have hx := walkNextN_ext start r e
    simp only [Red.walk, walkNN, ← hs.1]
    generalize walkNextN start r e = x at hs hx
    obtain ⟨_ | e', r1⟩ := x
    · rfl
    · have hroot : r1.root = r.root := hx.root
      simp only [ih r1 (hx.closed hcl) e' (hs.2 e' rfl), hroot]

/-! ### the pure successor walk is the recursive nodes-only preorder -/

def contN (g : Green) (start : Path) (n : Nat) (p : Path) : List WE :=
  match nextN g start (.leave p) with
  | none => []
  | some e' => walkNN g start n e'

theorem preN_tok (p : Path) (c : Green) (h : c.isNode = false) : preN p c = [] := by
  cases c with
  | tok _ _ _ _ => rfl
  | node _ _ _ _ _ => simp [Green.isNode] at h

theorem nodeFrom_eq {g : Green} {p : Path} {t : Green} (hg : Green.get g p = some t) (i : Nat) :
    nodeFrom g p i = firstNodeIdx (t.children.drop i) i := by
  simp only [nodeFrom, hg]

/-- where the nodes-only walk stands before child `i` of `p`: about to enter the next node child, or to leave `p` -/
def beforeN (g : Green) (p : Path) (i : Nat) : Option WE :=
  match nodeFrom g p i with
  | some j => some (.enter (p ++ [j]))
  | none => some (.leave p)

theorem nextN_leave_child (g : Green) (start p : Path) (i : Nat) (hlen : start.length ≤ p.length) :
    nextN g start (.leave (p ++ [i])) = beforeN g p (i + 1) := by
  have hne : p ++ [i] ≠ start := by
    intro h; have := congrArg List.length h; simp at this; omega
  simp [nextN, hne, beforeN]

theorem walkNN_succ (g : Green) (start : Path) (n : Nat) (e : WE) :
    walkNN g start (n + 1) e = e :: (nextN g start e).elim [] (walkNN g start n) := by
  rw [walkNN]; cases nextN g start e <;> rfl

theorem contN_eq (g : Green) (start : Path) (n : Nat) (p : Path) :
    contN g start n p = (nextN g start (.leave p)).elim [] (walkNN g start n) := by
  rw [contN]; cases nextN g start (.leave p) <;> rfl

mutual
theorem stretch_preN (g : Green) (start : Path) (p : Path) (hlen : start.length ≤ p.length) :
    (t : Green) → Green.get g p = some t → t.isNode = true →
    C03.Stretch (nextN g start) (some (.enter p)) (preN p t) (nextN g start (.leave p))
  | .tok .., _, hn => nomatch hn
  | .node _ _ _ _ cs, hg, _ =>
    ⟨rfl, show C03.Stretch _ (beforeN g p 0) _ _ from
      (stretch_preNL g start p hlen _ hg cs 0 rfl).append (b := [.leave p]) ⟨rfl, rfl⟩⟩
theorem stretch_preNL (g : Green) (start : Path) (p : Path) (hlen : start.length ≤ p.length)
    (t : Green) (hg : Green.get g p = some t) : (cs : List Green) → (i : Nat) → t.children.drop i = cs →
    C03.Stretch (nextN g start) (beforeN g p i) (preNL p i cs) (some (.leave p))
  | [], i, hcs => by rw [beforeN, nodeFrom_eq hg, hcs]; rfl
  | c :: cs, i, hcs => by
    have hc : t.children[i]? = some c := by rw [← List.head?_drop, hcs]; rfl
    have h2 := stretch_preNL g start p hlen t hg cs (i + 1) (by rw [← List.tail_drop, hcs]; rfl)
    have hnf : nodeFrom g p i = firstNodeIdx (c :: cs) i := by rw [nodeFrom_eq hg, hcs]
    have hnf' : nodeFrom g p (i + 1) = firstNodeIdx cs (i + 1) := by rw [nodeFrom_eq hg, ← List.tail_drop, hcs]; rfl
    cases hcn : c.isNode with
    | true =>
      have h1 := stretch_preN g start (p ++ [i]) (by simp; omega) c (C03.get_child g p t hg i c hc) hcn
      rw [nextN_leave_child g start p i hlen] at h1
      rw [beforeN, hnf, firstNodeIdx, if_pos hcn]
      exact h1.append h2
    | false =>
      rw [beforeN, hnf, firstNodeIdx, if_neg (by simp [hcn]), ← hnf', preNL, preN_tok _ c hcn]
      exact h2
end

theorem walk_preN (g : Green) (start : Path) (p : Path) (t : Green) (hg : Green.get g p = some t)
    (hn : t.isNode = true) (hlen : start.length ≤ p.length) (n : Nat) :
    walkNN g start (n + (preN p t).length) (.enter p) = preN p t ++ contN g start n p :=
  contN_eq g start n p ▸ C03.walk_of_stretch (walkNN_succ g start) n _ _ _ (stretch_preN g start p hlen t hg hn)

theorem walk_preNL (g : Green) (start : Path) (p : Path) (t : Green)
    (hg : Green.get g p = some t) (hlen : start.length ≤ p.length)
    (i : Nat) (cs : List Green) (hcs : t.children.drop i = cs) (j : Nat) (hj : firstNodeIdx cs i = some j) (n : Nat) :
    walkNN g start (n + (preNL p i cs).length) (.enter (p ++ [j])) =
      preNL p i cs ++ walkNN g start n (.leave p) := by
  have := stretch_preNL g start p hlen t hg cs i hcs
  rw [beforeN, nodeFrom_eq hg, hcs, hj] at this
  exact C03.walk_of_stretch (walkNN_succ g start) n _ _ _ this

mutual
theorem preN_length : (p : Path) → (t : Green) → (preN p t).length ≤ 2 * Red.gsize t
  | _, .tok .. => Nat.zero_le _
  | p, .node _ _ _ _ cs => by
    rw [preN, List.length_cons, List.length_append, Red.gsize, Nat.mul_add, Nat.add_comm 2]
    exact Nat.add_le_add_right (preNL_length p 0 cs) 2
theorem preNL_length : (p : Path) → (i : Nat) → (cs : List Green) → (preNL p i cs).length ≤ 2 * Red.gsizeL cs
  | _, _, [] => Nat.le_refl _
  | p, i, c :: cs => by
    rw [preNL, Red.gsizeL, List.length_append, Nat.mul_add]
    exact Nat.add_le_add (preN_length (p ++ [i]) c) (preNL_length p (i + 1) cs)
end

/-- **the modelled `preorder()` is the recursive nodes-only preorder of the sub-tree**: properly nested
    enter/leave events, every *node* of the sub-tree exactly once, in source order, tokens skipped -/
theorem preorder_nodes_spec (r : Red) (hcl : Closed r) (p : Path) (t : Green)
    (hm : Mat r p) (ht : r.green p = some t) (hn : t.isNode = true) :
    (r.preorder p).1 = preN p t ∧ (r.preorder p).2.root = r.root ∧
      Closed (r.preorder p).2 ∧ (∀ q, Mat r q → Mat (r.preorder p).2 q) := by
  have hx := preorder_ext r p
  refine ⟨?_, hx.root, hx.closed hcl, fun _ => hx.mat⟩
  rw [Red.preorder, walkN_sim p _ r hcl (.enter p) (range_of_mat hm ht)]
  have hlen := preN_length p t
  have hfuel : Red.walkFuel r p = (Red.walkFuel r p - (preN p t).length) + (preN p t).length := by
    simp [Red.walkFuel, ht]; omega
  rw [hfuel, walk_preN r.root p p t ht hn (Nat.le_refl _)]
  simp [contN, nextN]

end Cst
