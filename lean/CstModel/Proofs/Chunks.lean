/-
  Proofs/Chunks — cutting a token list at a byte range: the concatenation of the per-token cuts is
  the slice of the concatenated text (the pure core of `SyntaxText`'s chunking).
-/
import CstModel.Proofs.Text
import CstModel.Model.SyntaxText
namespace Cst

/-- per-token cut of the range `[a, b]` (offsets relative to the start of the first token's parent;
    `s` = start of the next token): a token whose closed range does not meet `[a, b]` gives no chunk, any
    other gives `&text[lo - s .. hi - s]` (`none` = slice panic) — `TextRange::intersect` + `chunkOf` -/
def cut (a b : Nat) : Nat → List Text → List (Option Text)
  | _, [] => []
  | s, t :: ts =>
    (if min b (s + blen t) < max a s then [] else [sliceBytes t (max a s - s) (min b (s + blen t) - s)]) ++
      cut a b (s + blen t) ts

theorem chunksConcat_cons (c : Option Text) (cs : List (Option Text)) :
    chunksConcat (c :: cs) = c.bind fun x => (chunksConcat cs).map (x ++ ·) := by
  cases c <;> rfl

/-- **the chunks of a range are the slice, and only then**: for a range that ends inside the text, cutting the
    tokens at the range and concatenating the cuts is `&text[a..b]` of the concatenated text — the same text when
    the slice exists, a panic when it does not (an end inside a character).  Relative to the token list the range
    is `a - s .. b - s`, truncated: a token is cut at the range clamped to it, which is how `sliceBytes_append`
    splits a slice, and a token outside the range is left out where the clamped slice is empty. -/
theorem chunksConcat_cut (a b : Nat) (hab : a ≤ b) (ts : List Text) (s : Nat) (hb : b ≤ s + blen ts.flatten) :
    chunksConcat (cut a b s ts) = sliceBytes ts.flatten (a - s) (b - s) := by
  induction ts generalizing s with
  | nil =>
    obtain ⟨ha, hb⟩ : a - s = 0 ∧ b - s = 0 := by simp at hb; omega
    rw [ha, hb]; rfl
  | cons t ts ih =>
    rw [List.flatten_cons, blen_append] at hb
    rw [List.flatten_cons, sliceBytes_append, cut, ← Nat.sub_add_eq, ← Nat.sub_add_eq, ← ih _ (by omega)]
    split
    · -- the token lies before or behind the range: the clamped range is empty, at its start or at its end
      have he : sliceBytes t (min (a - s) (blen t)) (min (b - s) (blen t)) = some [] := by
        rcases (by omega : b ≤ s ∨ s + blen t ≤ a) with h1 | h1
        · rw [Nat.sub_eq_zero_of_le h1, Nat.sub_eq_zero_of_le (Nat.le_trans hab h1), Nat.zero_min]
          exact sliceBytes_eq_some.mpr ⟨[], t, rfl, rfl, rfl⟩
        · rw [Nat.min_eq_right (Nat.le_sub_of_add_le' h1), Nat.min_eq_right (Nat.le_sub_of_add_le' (Nat.le_trans h1 hab))]
          exact sliceBytes_eq_some.mpr ⟨t, [], by simp, rfl, rfl⟩
      rw [he, List.nil_append]
      cases chunksConcat (cut a b (s + blen t) ts) <;> rfl
    · next h =>
      have ha : a - s ≤ blen t := Nat.sub_le_iff_le_add'.mpr
        (Nat.le_trans (Nat.le_max_left a s) (Nat.le_trans (Nat.le_of_not_lt h) (Nat.min_le_right _ _)))
      rw [← Nat.sub_eq_max_sub, ← Nat.sub_min_sub_right, Nat.add_sub_cancel_left, Nat.min_eq_left ha]
      exact chunksConcat_cons _ _

/-- **the chunks of a range are the slice**: cutting the tokens of a node at a byte range and
    concatenating the cuts gives `&text[a..b]` of the node's text, whenever that slice exists (both ends on
    character boundaries, inside the text) — tokens before, behind and touching the range included -/
theorem cut_spec (a b : Nat) (hab : a ≤ b) : ∀ (ts : List Text) (s : Nat) (x : Text),
    sliceBytes ts.flatten (a - s) (b - s) = some x → chunksConcat (cut a b s ts) = some x := by
  intro ts s x h
  rw [chunksConcat_cut a b hab ts s, h]
  have := sliceBytes_le_blen h
  omega

/-- **and conversely**: if every cut exists (no chunk panics) and the range ends inside the text, the slice of the
    concatenated text exists and is the concatenation of the cuts — so a range with an end inside a character has a
    panicking chunk -/
theorem cut_spec_conv (a b : Nat) (hab : a ≤ b) : ∀ (ts : List Text) (s : Nat) (x : Text),
    chunksConcat (cut a b s ts) = some x → b ≤ s + blen ts.flatten →
    sliceBytes ts.flatten (a - s) (b - s) = some x :=
  fun ts s _ h hb => chunksConcat_cut a b hab ts s hb ▸ h

end Cst
