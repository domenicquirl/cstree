/-
  Proofs/SerRed — the event stream the red-level serialiser writes (a walk over the red tree with
  `preorder_with_tokens`, resolving token texts on the way) is the recursive event stream of the tree.
-/
import CstModel.Model.Serde
import CstModel.Proofs.Walk
import CstModel.Props.C11
import CstModel.Props.C16
namespace Cst
open Red

mutual
/-- the tree (with data on its nodes) that a green tree and a data assignment stand for; `none` when a
    token does not resolve -/
def toDT (cfg : Cfg) (I : Interner) (data : Path → Option Nat) (p : Path) : Green → Option C16.DT
  | .tok id k key len => (tokenText cfg I (.tok id k key len)).map (fun s => C16.DT.tok k s)
  | .node _ k _ _ cs => (toDTL cfg I data p 0 cs).map (fun ds => C16.DT.node k (data p) ds)
def toDTL (cfg : Cfg) (I : Interner) (data : Path → Option Nat) (p : Path) (i : Nat) : List Green → Option (List C16.DT)
  | [] => some []
  | c :: cs =>
    match toDT cfg I data (p ++ [i]) c, toDTL cfg I data p (i + 1) cs with
    | some d, some ds => some (d :: ds)
    | _, _ => none
end

theorem toDT_tok_some {cfg : Cfg} {I : Interner} {data : Path → Option Nat} {p : Path} {id k : Nat} {key : Option Nat}
    {len : Nat} {dt : C16.DT} (h : toDT cfg I data p (.tok id k key len) = some dt) :
    ∃ s, tokenText cfg I (.tok id k key len) = some s ∧ dt = .tok k s := by
  obtain ⟨s, hs, rfl⟩ := Option.map_eq_some_iff.mp h; exact ⟨s, hs, rfl⟩

theorem toDT_node_some {cfg : Cfg} {I : Interner} {data : Path → Option Nat} {p : Path} {id k len : Nat} {h : UInt32}
    {cs : List Green} {dt : C16.DT} (hd : toDT cfg I data p (.node id k len h cs) = some dt) :
    ∃ ds, toDTL cfg I data p 0 cs = some ds ∧ dt = .node k (data p) ds := by
  obtain ⟨ds, hs, rfl⟩ := Option.map_eq_some_iff.mp hd; exact ⟨ds, hs, rfl⟩

theorem toDTL_cons_some {cfg : Cfg} {I : Interner} {data : Path → Option Nat} {p : Path} {i : Nat} {c : Green}
    {cs : List Green} {ds : List C16.DT} (h : toDTL cfg I data p i (c :: cs) = some ds) :
    ∃ d ds', toDT cfg I data (p ++ [i]) c = some d ∧ toDTL cfg I data p (i + 1) cs = some ds' ∧ ds = d :: ds' := by
  rw [toDTL] at h
  split at h <;> cases h
  exact ⟨_, _, ‹_›, ‹_›, rfl⟩

theorem collectEvents_append (cfg : Cfg) (I : Interner) (r : Red) (flag : Path → Bool) (a b : List WE) (x y : List SEv)
    (ha : collectEvents cfg I r flag a = some x) (hb : collectEvents cfg I r flag b = some y) :
    collectEvents cfg I r flag (a ++ b) = some (x ++ y) := by
  induction a generalizing x with
  | nil => simp only [collectEvents] at ha; cases ha; simpa using hb
  | cons e es ih =>
    simp only [List.cons_append, collectEvents] at ha ⊢
    cases he : serEvent cfg I r flag e with
    | none => simp [he] at ha
    | some o =>
      cases hes : collectEvents cfg I r flag es with
      | none => cases o <;> simp [he, hes] at ha
      | some ss =>
        rw [ih ss hes]
        cases o <;> simp only [he, hes] at ha ⊢ <;> cases ha <;> rfl

mutual
/-- the walk events of a sub-tree serialise to the recursive event stream of the tree it stands for -/
theorem ser_pre (cfg : Cfg) (I : Interner) (r : Red) (data : Path → Option Nat) :
    (g : Green) → (p : Path) → (dt : C16.DT) → Green.get r.root p = some g → toDT cfg I data p g = some dt →
    collectEvents cfg I r (fun q => (data q).isSome) (C03.pre p g) = some (C16.serEv dt)
  | .tok id k key len, p, dt, hg, hd => by
    obtain ⟨s, ht, rfl⟩ := toDT_tok_some hd
    have hgr : r.green p = some (.tok id k key len) := hg
    simp [C03.pre, collectEvents, serEvent, hgr, Green.isNode, ht, Green.kind, C16.serEv]
  | .node id k len h cs, p, dt, hg, hd => by
    obtain ⟨ds, hl, rfl⟩ := toDT_node_some hd
    have hgr : r.green p = some (.node id k len h cs) := hg
    have hkids := ser_preL cfg I r data cs p 0 ds (.node id k len h cs) hg (by simp [Green.children]) hl
    have hleave : collectEvents cfg I r (fun q => (data q).isSome) [.leave p] = some [SEv.leave] := by
      simp [collectEvents, serEvent, hgr, Green.isNode]
    have hbody := collectEvents_append cfg I r _ _ _ _ _ hkids hleave
    simp only [C03.pre, collectEvents, serEvent, hgr, Green.isNode, ↓reduceIte, hbody, Green.kind, C16.serEv]
theorem ser_preL (cfg : Cfg) (I : Interner) (r : Red) (data : Path → Option Nat) :
    (cs : List Green) → (p : Path) → (i : Nat) → (ds : List C16.DT) → (t : Green) → Green.get r.root p = some t →
    t.children.drop i = cs → toDTL cfg I data p i cs = some ds →
    collectEvents cfg I r (fun q => (data q).isSome) (C03.preL p i cs) = some (C16.serEvL ds)
  | [], _, _, ds, _, _, _, hd => by
    cases hd
    simp [C03.preL, collectEvents, C16.serEvL]
  | c :: cs, p, i, ds, t, hg, hdrop, hd => by
    obtain ⟨d, ds', h1, h2, rfl⟩ := toDTL_cons_some hd
    have hci : t.children[i]? = some c := by
      have := congrArg List.head? hdrop; simpa [List.head?_drop] using this
    have hrest : t.children.drop (i + 1) = cs := by
      have := congrArg List.tail hdrop; simpa [List.tail_drop] using this
    exact collectEvents_append cfg I r _ _ _ _ _
      (ser_pre cfg I r data c (p ++ [i]) d (C03.get_child r.root p t hg i c hci) h1)
      (ser_preL cfg I r data cs p (i + 1) ds' t hg hrest h2)
end

theorem resolveG_tok_of_GWf {cfg : Cfg} {I : Interner} {id k : Nat} {key : Option Nat} {len : Nat}
    (hw : GWf cfg I (.tok id k key len)) :
    resolveG cfg I (.tok id k key len) = (tokenText cfg I (.tok id k key len)).map (Tree.tok k) := by
  cases key with
  | none => obtain ⟨st, hs, _⟩ := hw; simp [resolveG, tokenText, hs]
  | some key => obtain ⟨hn, s, hs, _⟩ := hw; simp [resolveG, tokenText, hn, hs]

mutual
/-- forgetting the data gives back the tree the green tree resolves to -/
theorem toDT_strip (cfg : Cfg) (I : Interner) (data : Path → Option Nat) :
    (g : Green) → (p : Path) → (dt : C16.DT) → GWf cfg I g → toDT cfg I data p g = some dt →
    resolveG cfg I g = some (C16.strip dt)
  | .tok id k key len, p, dt, hw, hd => by
    obtain ⟨s, ht, rfl⟩ := toDT_tok_some hd
    rw [resolveG_tok_of_GWf hw, ht]; rfl
  | .node id k len h cs, p, dt, hw, hd => by
    obtain ⟨ds, hl, rfl⟩ := toDT_node_some hd
    simp [resolveG, toDTL_strip cfg I data cs p 0 ds hw.2.2 hl, C16.strip]
theorem toDTL_strip (cfg : Cfg) (I : Interner) (data : Path → Option Nat) :
    (cs : List Green) → (p : Path) → (i : Nat) → (ds : List C16.DT) → GWfL cfg I cs → toDTL cfg I data p i cs = some ds →
    resolveL cfg I cs = some (C16.stripL ds)
  | [], _, _, ds, _, hd => by cases hd; rfl
  | c :: cs, p, i, ds, hw, hd => by
    obtain ⟨d, ds', h1, h2, rfl⟩ := toDTL_cons_some hd
    exact resolveL_cons_eq_some.mpr ⟨_, _, toDT_strip cfg I data c (p ++ [i]) d hw.1 h1,
      toDTL_strip cfg I data cs p (i + 1) ds' hw.2 h2, rfl⟩
end

/-- **the serialiser's walk writes the tree's event stream**: for a fresh red tree over `g`, any data
    assignment and any interner in which the tokens resolve, `serialize` returns exactly `serEv` of the
    tree `g` stands for (which `C16.roundtrip` then reads back) -/
theorem ser_red (cfg : Cfg) (I : Interner) (data : Path → Option Nat) (g : Green) (dt : C16.DT)
    (hd : toDT cfg I data [] g = some dt) :
    ((Red.new g).serialize cfg I (fun q => (data q).isSome)).1 = some (C16.serEv dt) := by
  have hspec := preorderWithTokens_spec (Red.new g) (Closed.new g) [] g (Mat.root _) (by simp [Red.green, Red.new, Green.get])
  simp only [Red.serialize]
  rw [hspec.1]
  have hroot : ((Red.new g).preorderWithTokens []).2.root = g := hspec.2.1
  exact ser_pre cfg I _ data g [] dt (by rw [hroot]; simp [Green.get]) hd

mutual
theorem staticOk_of_GWf (cfg : Cfg) (I : Interner) :
    (g : Green) → (t : Tree) → GWf cfg I g → resolveG cfg I g = some t → StaticOk cfg t
  | .tok _ k none _, t, hw, hr => by
    obtain ⟨st, hs, _⟩ := hw
    simp only [resolveG, hs, Option.map_some, Option.some.injEq] at hr
    subst hr
    exact fun st' hs' => Option.some.inj (hs.symm.trans hs')
  | .tok _ k (some key) _, t, hw, hr => by
    obtain ⟨s, _, rfl⟩ := Option.map_eq_some_iff.mp hr
    exact fun st' hs' => absurd (hw.1.symm.trans hs') (by simp)
  | .node _ k _ _ cs, t, hw, hr => by
    obtain ⟨ts, hl, rfl⟩ := Option.map_eq_some_iff.mp hr
    exact staticOkL_of_GWfL cfg I cs ts hw.2.2 hl
theorem staticOkL_of_GWfL (cfg : Cfg) (I : Interner) :
    (gs : List Green) → (ts : List Tree) → GWfL cfg I gs → resolveL cfg I gs = some ts → StaticOkL cfg ts
  | [], ts, _, hr => by cases hr; trivial
  | g :: gs, ts, hw, hr => by
    obtain ⟨t, ts', h1, h2, rfl⟩ := resolveL_cons_eq_some.mp hr
    exact ⟨staticOk_of_GWf cfg I g t hw.1 h1, staticOkL_of_GWfL cfg I gs ts' hw.2 h2⟩
end

/-- **serialise, then deserialise**: the events the red-level serialiser writes for any well-formed green
    tree with any data assignment are read back (through a fresh builder) as a tree that resolves to the
    same tree, with the same data on the same nodes -/
theorem ser_de_roundtrip (cfg : Cfg) (hcmp : cfg.cmpChildren = true) (cap : Nat) (I : Interner)
    (data : Path → Option Nat) (id k len : Nat) (h : UInt32) (cs : List Green)
    (hw : GWf cfg I (.node id k len h cs)) (dt : C16.DT) (hd : toDT cfg I data [] (.node id k len h cs) = some dt)
    (hcap : (C16.strip dt).nTokens ≤ cap) :
    ∃ evs, ((Red.new (.node id k len h cs)).serialize cfg I (fun q => (data q).isSome)).1 = some evs ∧
      ∃ g' c, deserialize cfg cap evs (C16.dataOf dt) = .ok (g', c, C16.positions (C16.optsOf dt) 0) ∧
        resolveG cfg c.interner g' = resolveG cfg I (.node id k len h cs) := by
  refine ⟨C16.serEv dt, ser_red cfg I data _ dt hd, ?_⟩
  have hres := toDT_strip cfg I data _ [] dt hw hd
  have hso := staticOk_of_GWf cfg I _ _ hw hres
  obtain ⟨ds, _, rfl⟩ := toDT_node_some hd
  obtain ⟨g', c, h1, h2⟩ := C16.roundtrip cfg hcmp cap k (data []) ds hso hcap
  exact ⟨g', c, h1, by rw [h2, hres]⟩

end Cst
