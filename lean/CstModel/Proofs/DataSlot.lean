/-
  Proofs/DataSlot — invariants of the data-slot transition system.

  * `Lk`: the lock discipline (a writer is alone), what a `try_set_data` saw is still true, and the
          recorded history replays against the sequential specification ending in the slot's content;
  * `Ld`: the ownership ledger (strong count = slot + outside owners; the destructor of a value has
          run exactly when it has no owner left).
-/
import CstModel.Model.DataSlot
import CstModel.Proofs.Lists
namespace Cst.DataSlot

def Facts.Ok (F : Facts) : Prop := F.setW = true ∧ F.trySetW = true ∧ F.clearW = true

/-! ### field lemmas -/

@[simp] theorem dec_cell (s : Sys) (v : Nat) : (dec s v).cell = s.cell := by unfold dec; split <;> rfl
@[simp] theorem dec_pcs (s : Sys) (v : Nat) : (dec s v).pcs = s.pcs := by unfold dec; split <;> rfl
@[simp] theorem dec_hist (s : Sys) (v : Nat) : (dec s v).hist = s.hist := by unfold dec; split <;> rfl
@[simp] theorem dec_out (s : Sys) (v : Nat) : (dec s v).out = s.out := by unfold dec; split <;> rfl
@[simp] theorem dec_made (s : Sys) (v : Nat) : (dec s v).made = s.made := by unfold dec; split <;> rfl
@[simp] theorem decOpt_cell (s : Sys) (o : Option Nat) : (decOpt s o).cell = s.cell := by cases o <;> simp [decOpt]
@[simp] theorem decOpt_pcs (s : Sys) (o : Option Nat) : (decOpt s o).pcs = s.pcs := by cases o <;> simp [decOpt]
@[simp] theorem decOpt_hist (s : Sys) (o : Option Nat) : (decOpt s o).hist = s.hist := by cases o <;> simp [decOpt]
@[simp] theorem decOpt_out (s : Sys) (o : Option Nat) : (decOpt s o).out = s.out := by cases o <;> simp [decOpt]
@[simp] theorem decOpt_made (s : Sys) (o : Option Nat) : (decOpt s o).made = s.made := by cases o <;> simp [decOpt]
@[simp] theorem store_cell (s : Sys) (v : Nat) : (store s v).cell = some v := by simp [store]
@[simp] theorem store_pcs (s : Sys) (v : Nat) : (store s v).pcs = s.pcs := by simp [store, inc]
@[simp] theorem store_hist (s : Sys) (v : Nat) : (store s v).hist = s.hist := by simp [store, inc]
@[simp] theorem store_out (s : Sys) (v : Nat) : (store s v).out = s.out := by simp [store, inc]
@[simp] theorem store_made (s : Sys) (v : Nat) : (store s v).made = s.made := by simp [store, inc]

@[simp] theorem takeIn_cell (s : Sys) (o : Option Nat) : (takeIn s o).cell = s.cell := by cases o <;> rfl
@[simp] theorem takeIn_pcs (s : Sys) (o : Option Nat) : (takeIn s o).pcs = s.pcs := by cases o <;> rfl
@[simp] theorem takeIn_hist (s : Sys) (o : Option Nat) : (takeIn s o).hist = s.hist := by cases o <;> rfl
@[simp] theorem share_cell (s : Sys) (o : Option Nat) : (share s o).cell = s.cell := by cases o <;> rfl
@[simp] theorem share_pcs (s : Sys) (o : Option Nat) : (share s o).pcs = s.pcs := by cases o <;> rfl
@[simp] theorem share_hist (s : Sys) (o : Option Nat) : (share s o).hist = s.hist := by cases o <;> rfl

/-- replaying a history is replaying its first part and then, from where that ends, the rest -/
theorem specRun_app (c : Option Nat) (h1 h2 : List Entry) :
    specRun c (h1 ++ h2) = (specRun c h1).bind (fun m => specRun m h2) := by
  induction h1 generalizing c with
  | nil => rfl
  | cons e rest ih =>
    obtain ⟨i, r, res⟩ := e
    simp only [List.cons_append, specRun]
    split
    · exact ih _
    · rfl

theorem specRun_append (c : Option Nat) (h : List Entry) (i : Nat) (r : Req) (res : Res) (c' : Option Nat)
    (hr : specRun c h = some c') (hs : (spec c' r).2 = res) :
    specRun c (h ++ [(i, r, res)]) = some (spec c' r).1 := by
  rw [specRun_app, hr]
  exact if_pos hs

/-! ### the lock invariant -/

structure Lk (F : Facts) (s : Sys) : Prop where
  excl : ∀ (i j : Nat) (pi pj : PC), s.pcs[i]? = some pi → s.pcs[j]? = some pj → i ≠ j → pi.writes F = true → pj.busy = false
  chk : ∀ (i v : Nat) (b : Bool), s.pcs[i]? = some (PC.checked v b) → b = s.cell.isSome
  hist : specRun none s.hist = some s.cell

/-- the lock part only looks at the threads, the slot and the history -/
theorem lk_frame {F : Facts} {s s' : Sys} (h : Lk F s) (hp : s'.pcs = s.pcs) (hc : s'.cell = s.cell) (hh : s'.hist = s.hist) :
    Lk F s' := ⟨hp ▸ h.excl, hp ▸ hc ▸ h.chk, hh ▸ hc ▸ h.hist⟩

theorem lk_init (F : Facts) (n : Nat) : Lk F (Sys.init n) := by
  refine ⟨?_, ?_, rfl⟩
  · intro i j pi pj hi hj _ hw
    simp only [Sys.init, List.getElem?_replicate] at hi
    split at hi
    · cases hi; simp [PC.writes, PC.req] at hw
    · cases hi
  · intro i v b hi
    simp only [Sys.init, List.getElem?_replicate] at hi
    split at hi <;> cases hi

theorem all_not_busy {s : Sys} (hall : s.pcs.all (fun p => !p.busy) = true) (j : Nat) (p : PC)
    (hj : s.pcs[j]? = some p) : p.busy = false := by
  rw [List.all_eq_true] at hall
  have := hall p (List.mem_of_getElem? hj)
  simpa using this

theorem all_not_writes {F : Facts} {s : Sys} (hall : s.pcs.all (fun p => !p.writes F) = true) (j : Nat) (p : PC)
    (hj : s.pcs[j]? = some p) : p.writes F = false := by
  rw [List.all_eq_true] at hall
  have := hall p (List.mem_of_getElem? hj)
  simpa using this

theorem writes_busy {F : Facts} {p : PC} (h : p.writes F = true) : p.busy = true := by
  unfold PC.writes at h
  unfold PC.busy
  cases hp : p.req with
  | none => simp [hp] at h
  | some r => rfl

/-- a thread whose state writes is alone: every other thread is not busy -/
theorem others_idle {F : Facts} {s : Sys} (h : Lk F s) {i : Nat} {p : PC} (hi : s.pcs[i]? = some p)
    (hw : p.writes F = true) (j : Nat) (q : PC) (hj : s.pcs[j]? = some q) (hne : j ≠ i) : q.busy = false :=
  h.excl i j p q hi hj (Ne.symm hne) hw

/-- **thread `i` goes to `p'`**: the lock part survives if a writing `p'` finds everybody else outside, a busy `p'` finds
    no writer among the others, a `checked` `p'` has looked at the slot as it now is, and the slot has changed only if
    everybody else is outside -/
theorem lk_set {F : Facts} {s s' : Sys} (h : Lk F s) (i : Nat) (p' : PC) (hpcs : s'.pcs = s.pcs.set i p')
    (hw : p'.writes F = true → ∀ j q, s.pcs[j]? = some q → j ≠ i → q.busy = false)
    (hb : p'.busy = true → ∀ j q, s.pcs[j]? = some q → j ≠ i → q.writes F = false)
    (hchk : ∀ v b, p' = .checked v b → b = s'.cell.isSome)
    (hcell : s'.cell = s.cell ∨ ∀ j q, s.pcs[j]? = some q → j ≠ i → q.busy = false)
    (hhist : specRun none s'.hist = some s'.cell) : Lk F s' := by
  refine ⟨fun a b pa pb ha hb' hab hwa => ?_, fun a v b ha => ?_, hhist⟩
  · rw [hpcs] at ha hb'
    rcases getElem?_set_cases _ _ _ _ _ ha with ⟨rfl, rfl⟩ | ⟨hai, ha'⟩
    · rcases getElem?_set_cases _ _ _ _ _ hb' with ⟨hba, _⟩ | ⟨hbi, hb''⟩
      · exact absurd hba.symm hab
      · exact hw hwa b pb hb'' hbi
    · rcases getElem?_set_cases _ _ _ _ _ hb' with ⟨_, rfl⟩ | ⟨_, hb''⟩
      · cases hpb : pb.busy with
        | false => rfl
        | true => exact absurd hwa (Bool.eq_false_iff.mp (hb hpb a pa ha' hai))
      · exact h.excl a b pa pb ha' hb'' hab hwa
  · rw [hpcs] at ha
    rcases getElem?_set_cases _ _ _ _ _ ha with ⟨_, hh⟩ | ⟨hai, ha'⟩
    · exact hchk v b hh.symm
    · rcases hcell with hc | hidle
      · rw [hc]; exact h.chk a v b ha'
      · cases hidle a _ ha' hai

theorem lk_release (F : Facts) (s : Sys) (i : Nat) (h : Lk F s) : Lk F (setPc s i .idle) :=
  lk_set h i .idle rfl nofun nofun nofun (Or.inl rfl) h.hist

/-- the thread `i` moves within its critical section -/
theorem lk_move {F : Facts} {s s' : Sys} (h : Lk F s) (i : Nat) (p p' : PC)
    (hi : s.pcs[i]? = some p) (hbusy : p.busy = true) (hpcs : s'.pcs = s.pcs.set i p')
    (hwr : p'.writes F = p.writes F)
    (hchk : ∀ v b, p' = .checked v b → b = s'.cell.isSome)
    (hcell : s'.cell = s.cell ∨ p.writes F = true)
    (hhist : specRun none s'.hist = some s'.cell) : Lk F s' :=
  lk_set h i p' hpcs (fun hw => others_idle h hi (hwr ▸ hw))
    -- `p` held the lock, so nobody else can be writing
    (fun _ j q hj hne => Bool.eq_false_iff.mpr fun hq => absurd hbusy (Bool.eq_false_iff.mp (h.excl j i q p hj hi hne hq)))
    hchk (hcell.imp_right (others_idle h hi)) hhist

/-- a body completes: on the state `X` it has made of `s` (same threads, same history) it records, and leaves in the
    slot, what the specification says of the slot as it was -/
theorem lk_body {F : Facts} {s X : Sys} (h : Lk F s) (i : Nat) (p : PC) (hi : s.pcs[i]? = some p) (hbusy : p.busy = true)
    (hX : X.pcs = s.pcs ∧ X.hist = s.hist) (r : Req) (res : Res) (hwr : F.mode r = p.writes F)
    (hcell : X.cell = s.cell ∨ p.writes F = true) (hspec : spec s.cell r = (X.cell, res)) :
    Lk F (log (setPc X i (.done r res)) i r res) := by
  refine lk_move h i p (.done r res) hi hbusy (by rw [← hX.1]; rfl) hwr nofun hcell ?_
  show specRun none (X.hist ++ [(i, r, res)]) = some X.cell
  rw [hX.2, show X.cell = (spec s.cell r).1 by rw [hspec]]
  exact specRun_append _ _ _ _ _ _ h.hist (by rw [hspec])

theorem lk_acquire {F : Facts} {s : Sys} (h : Lk F s) (i : Nat) (r : Req)
    (hfree : lockFree F s r = true)
    {s' : Sys} (hpcs : s'.pcs = s.pcs.set i (.locked r)) (hcell : s'.cell = s.cell) (hhist : s'.hist = s.hist) :
    Lk F s' := by
  unfold lockFree at hfree
  refine lk_set h i (.locked r) hpcs (fun hw j q hj _ => ?_) (fun _ j q hj _ => ?_) nofun (Or.inl hcell)
    (by rw [hhist, hcell]; exact h.hist)
  · rw [if_pos (show F.mode r = true from hw)] at hfree
    exact all_not_busy hfree j q hj
  · split at hfree
    · exact Bool.eq_false_iff.mpr fun hq => absurd (writes_busy hq) (Bool.eq_false_iff.mp (all_not_busy hfree j q hj))
    · exact all_not_writes hfree j q hj

theorem lk_step {F : Facts} (hF : F.Ok) {s s' : Sys} (h : Lk F s) (i : Nat) (a : Act)
    (hs : step F s i a = some s') : Lk F s' := by
  obtain ⟨hset, htry, hclr⟩ := hF
  unfold step at hs
  split at hs
  · cases hs
  rename_i pc hi
  -- the alternatives of `step` in its order; what `lk_body` is told about `X` is proved by tactic blocks, which run
  -- once `X` has been read off the goal
  split at hs
  · obtain ⟨hc, hs⟩ := Option.ite_none_right_eq_some.mp hs
    cases hs
    exact lk_acquire h i _ (Bool.and_eq_true_iff.mp hc).1 (takeIn_pcs ..) (takeIn_cell ..) (takeIn_hist ..)
  · cases hs
    exact lk_body h i _ hi rfl ⟨by rw [store_pcs], by rw [store_hist]⟩ _ _ rfl (Or.inr hset) (by rw [store_cell]; rfl)
  · cases hs
    exact lk_move h i _ _ hi rfl rfl rfl (fun _ _ hh => by cases hh; rfl) (Or.inl rfl) h.hist
  · cases hs
    exact lk_body h i _ hi rfl ⟨rfl, rfl⟩ _ _ rfl (Or.inl rfl) (by rw [spec, ← h.chk i _ _ hi]; rfl)
  · cases hs
    exact lk_body h i _ hi rfl ⟨by rw [store_pcs], by rw [store_hist]⟩ _ _ rfl (Or.inr htry)
      (by rw [store_cell, spec, ← h.chk i _ _ hi]; rfl)
  · cases hs
    exact lk_body h i _ hi rfl ⟨by rw [share_pcs], by rw [share_hist]⟩ _ _ rfl (Or.inl (by rw [share_cell])) (by rw [share_cell]; rfl)
  · cases hs
    exact lk_body h i _ hi rfl ⟨by rw [decOpt_pcs], by rw [decOpt_hist]⟩ _ _ rfl (Or.inr hclr) (by rw [decOpt_cell]; rfl)
  · cases hs; exact lk_release F s i h
  · obtain ⟨_, hs⟩ := Option.ite_none_right_eq_some.mp hs
    cases hs
    exact lk_frame h (dec_pcs ..) (dec_cell ..) (dec_hist ..)
  · obtain ⟨hall, hs⟩ := Option.ite_none_right_eq_some.mp hs
    cases hs
    have hp : (log (decOpt { s with cell := none } s.cell) i .clear .unit).pcs = s.pcs := decOpt_pcs ..
    refine ⟨fun a b pa pb ha hb hab hw => ?_, fun a v b ha => ?_, ?_⟩
    · exact all_not_busy hall b pb (hp ▸ hb)
    · cases all_not_busy hall a _ (hp ▸ ha)
    · show specRun none ((decOpt _ _).hist ++ _) = some (decOpt _ _).cell
      rw [decOpt_hist, decOpt_cell]
      exact specRun_append _ _ _ _ _ _ h.hist rfl
  · cases hs

theorem lk_reachable {F : Facts} (hF : F.Ok) {n : Nat} {s : Sys} (h : Reachable F n s) : Lk F s := by
  induction h with
  | init => exact lk_init F n
  | step i a _ hs ih => exact lk_step hF ih i a hs

/-! ### the ownership ledger -/

/-- 1 when the slot holds `w` -/
def cellIs : Option Nat → Nat → Nat
  | some x, w => if x = w then 1 else 0
  | none, _ => 0

theorem cellIs_self (w : Nat) : cellIs (some w) w = 1 := by simp [cellIs]
theorem cellIs_ne {v w : Nat} (h : v ≠ w) : cellIs (some v) w = 0 := by simp [cellIs, h]
theorem cellIs_le (c : Option Nat) (w : Nat) : cellIs c w ≤ 1 := by
  cases c with
  | none => simp [cellIs]
  | some x => simp only [cellIs]; split <;> omega
theorem cellIs_pos {c : Option Nat} {w : Nat} (h : cellIs c w = 1) : c = some w := by
  cases c with
  | none => simp [cellIs] at h
  | some x => simp only [cellIs] at h; split at h <;> simp_all

/-! `cellIs (some v)` is the indicator of `v`: the counting operations of the model add or remove one of it, so
    that the balance of every ledger operation is linear arithmetic, with no case distinction on the value -/

theorem upd_self (f : Nat → Nat) (k x : Nat) : upd f k x k = x := if_pos rfl
theorem upd_ne (f : Nat → Nat) (k x : Nat) {i : Nat} (h : i ≠ k) : upd f k x i = f i := if_neg h

theorem upd_add (f : Nat → Nat) (v w : Nat) : upd f v (f v + 1) w = f w + cellIs (some v) w := by
  unfold upd cellIs; split <;> simp_all <;> omega

theorem upd_sub (f : Nat → Nat) (v w : Nat) (h : 1 ≤ f v) : upd f v (f v - 1) w + cellIs (some v) w = f w := by
  unfold upd cellIs; split <;> simp_all <;> omega

theorem count_cons_cellIs (l : List Nat) (v w : Nat) : (v :: l).count w = l.count w + cellIs (some v) w := by
  unfold cellIs; rw [List.count_cons]; simp only [beq_iff_eq]

theorem count_erase_cellIs {l : List Nat} {v : Nat} (h : v ∈ l) (w : Nat) :
    (l.erase v).count w + cellIs (some v) w = l.count w := by
  by_cases hvw : v = w
  · subst hvw; have := List.count_pos_iff.mpr h; rw [List.count_erase_self, cellIs_self]; omega
  · rw [List.count_erase_of_ne (Ne.symm hvw), cellIs_ne hvw]; rfl

theorem dec_owners (s : Sys) (v w : Nat) (h : 1 ≤ s.owners v) : (dec s v).owners w + cellIs (some v) w = s.owners w := by
  have := upd_sub s.owners v w h
  unfold dec; split
  · rename_i h1; rw [h1] at this; exact this
  · exact this

/-- the life of a value, in terms of its strong count `o` and the runs `d` of its destructor: not passed in yet; owned;
    or passed in and owned by nobody, the destructor having run once -/
inductive Life (made : Prop) (o d : Nat) : Prop
  | fresh : ¬made → o = 0 → d = 0 → Life made o d
  | live : made → 1 ≤ o → d = 0 → Life made o d
  | dead : made → o = 0 → d = 1 → Life made o d

def Dr (o d : Nat → Nat) (m : List Nat) : Prop := ∀ w, Life (w ∈ m) (o w) (d w)

variable {o d : Nat → Nat} {m : List Nat} {v : Nat}

theorem Dr.drp1 (h : Dr o d m) (w : Nat) (hw : w ∈ m) (h0 : o w = 0) : d w = 1 := by
  cases h w with
  | fresh hn => exact absurd hw hn
  | live _ ho => exact absurd h0 (Nat.ne_of_gt ho)
  | dead _ _ hd => exact hd

theorem Dr.drp0 (h : Dr o d m) (w : Nat) (hw : w ∉ m ∨ o w ≠ 0) : d w = 0 := by
  cases h w with
  | fresh _ _ hd | live _ _ hd => exact hd
  | dead hm ho => exact hw.elim (absurd hm) (absurd ho)

theorem Dr.mad (h : Dr o d m) (w : Nat) (hw : w ∉ m) : o w = 0 := by
  cases h w with
  | fresh _ ho => exact ho
  | live hm | dead hm => exact absurd hm hw

theorem Dr.mem (h : Dr o d m) (hv : 1 ≤ o v) : v ∈ m := by
  cases h v with
  | fresh _ ho => exact absurd ho (Nat.ne_of_gt hv)
  | live hm | dead hm => exact hm

/-- `v` gets one more owner, or, being new, its first -/
theorem Dr.gain (h : Dr o d m) {m' : List Nat} (hm : ∀ w, w ∈ m' ↔ w = v ∨ w ∈ m) (hv : v ∈ m → 1 ≤ o v)
    {b : Nat} (hb : 1 ≤ b) : Dr (upd o v b) d m' := by
  intro w
  by_cases hwv : w = v
  · subst hwv
    rw [upd_self]
    cases h w with
    | fresh _ _ hd | live _ _ hd => exact .live ((hm w).mpr (Or.inl rfl)) hb hd
    | dead hw ho => exact absurd ho (Nat.ne_of_gt (hv hw))
  · rw [upd_ne _ _ _ hwv]
    have e : w ∈ m' ↔ w ∈ m := (hm w).trans (or_iff_right hwv)
    cases h w with
    | fresh hn ho hd => exact .fresh (mt e.mp hn) ho hd
    | live hw ho hd => exact .live (e.mpr hw) ho hd
    | dead hw ho hd => exact .dead (e.mpr hw) ho hd

/-- one owner of `v` goes; the last one runs the destructor -/
theorem Dr.dec {s : Sys} (h : Dr s.owners s.drops s.made) (hv : 1 ≤ s.owners v) :
    Dr (dec s v).owners (dec s v).drops (dec s v).made := by
  have hm := h.mem hv
  have hd := h.drp0 v (Or.inr (Nat.ne_of_gt hv))
  intro w
  unfold DataSlot.dec
  by_cases hwv : w = v
  · subst hwv
    split
    · exact .dead hm (upd_self ..) (show upd _ _ _ w = 1 by rw [upd_self, hd])
    · exact .live hm (show 1 ≤ upd _ _ _ w by rw [upd_self]; omega) hd
  · split
    · show Life _ (upd _ _ _ w) (upd _ _ _ w); rw [upd_ne _ _ _ hwv, upd_ne _ _ _ hwv]; exact h w
    · show Life _ (upd _ _ _ w) _; rw [upd_ne _ _ _ hwv]; exact h w

structure Ld (s : Sys) : Prop where
  own : ∀ w : Nat, s.owners w = cellIs s.cell w + s.out.count w
  dr : Dr s.owners s.drops s.made
  pnd : ∀ (i : Nat) (p : PC) (v : Nat), s.pcs[i]? = some p → p.pending = some v → v ∈ s.made ∧ v ∈ s.out

theorem ld_init (n : Nat) : Ld (Sys.init n) := by
  refine ⟨fun w => rfl, fun w => .fresh List.not_mem_nil rfl rfl, fun i p v hi hp => ?_⟩
  cases (List.mem_replicate.mp (List.mem_of_getElem? hi)).2
  cases hp

theorem Ld.owned {s : Sys} (h : Ld s) {v : Nat} (hv : v ∈ s.out) : 1 ≤ s.owners v := by
  have := h.own v; have := List.count_pos_iff.mpr hv; omega

theorem ld_log {s : Sys} (h : Ld s) (i : Nat) (r : Req) (res : Res) : Ld (log s i r res) := ⟨h.own, h.dr, h.pnd⟩

/-- thread `i` moves to a state whose pending value, if any, is on the books -/
theorem ld_setPc {s : Sys} (h : Ld s) (i : Nat) (p' : PC) (hp : ∀ v, p'.pending = some v → v ∈ s.made ∧ v ∈ s.out) :
    Ld (setPc s i p') := by
  refine ⟨h.own, h.dr, fun a p v ha hpv => ?_⟩
  rcases getElem?_set_cases _ _ _ _ _ ha with ⟨_, rfl⟩ | ⟨_, ha'⟩
  · exact hp v hpv
  · exact h.pnd a p v ha' hpv

theorem ld_setPc' {s : Sys} (h : Ld s) (i : Nat) {p' : PC} (hp : p'.pending = none) : Ld (setPc s i p') :=
  ld_setPc h i p' (fun v hv => by rw [hp] at hv; cases hv)

/-- the books are right but for one owner of `o` too many; that owner goes -/
theorem ld_decOpt (s : Sys) (o : Option Nat)
    (hown : ∀ w : Nat, s.owners w = cellIs s.cell w + s.out.count w + cellIs o w)
    (hdr : Dr s.owners s.drops s.made)
    (hpnd : ∀ (i : Nat) (p : PC) (x : Nat), s.pcs[i]? = some p → p.pending = some x → x ∈ s.made ∧ x ∈ s.out) :
    Ld (decOpt s o) := by
  cases o with
  | none => exact ⟨hown, hdr, hpnd⟩
  | some v =>
    have hv : 1 ≤ s.owners v := by have := hown v; rw [cellIs_self] at this; omega
    refine ⟨fun w => ?_, hdr.dec hv, ?_⟩
    · have := hown w; have := dec_owners s v w hv
      show (dec s v).owners w = cellIs (dec s v).cell w + (dec s v).out.count w
      rw [dec_cell, dec_out]; omega
    · show ∀ i p x, (dec s v).pcs[i]? = some p → _ → x ∈ (dec s v).made ∧ x ∈ (dec s v).out
      rw [dec_pcs, dec_made, dec_out]; exact hpnd

/-- `store` keeps the ledger when the stored value is a pending one -/
theorem ld_store {s : Sys} (h : Ld s) (v : Nat) (hvo : v ∈ s.out) : Ld (store s v) := by
  have hov := h.owned hvo
  refine ld_decOpt _ _ (fun w => ?_) (h.dr.gain (fun w => ⟨Or.inr, fun hw => hw.elim (· ▸ h.dr.mem hov) id⟩) (fun _ => hov) (Nat.le_add_left 1 _)) h.pnd
  have := h.own w; have := upd_add s.owners v w
  show upd s.owners v (s.owners v + 1) w = cellIs (some v) w + s.out.count w + cellIs s.cell w
  omega

/-- the slot's content goes (`clear_data`, teardown) -/
theorem ld_clear {s : Sys} (h : Ld s) : Ld (decOpt { s with cell := none } s.cell) :=
  ld_decOpt _ _ (fun w => by have := h.own w; show s.owners w = 0 + s.out.count w + cellIs s.cell w; omega) h.dr h.pnd

/-- `get_data` hands out one more handle to the slot's content -/
theorem ld_share {s : Sys} (h : Ld s) : Ld (share s s.cell) := by
  cases hc : s.cell with
  | none => exact h
  | some v =>
    have hov : 1 ≤ s.owners v := by have := h.own v; rw [hc, cellIs_self] at this; omega
    refine ⟨fun w => ?_, h.dr.gain (fun w => ⟨Or.inr, fun hw => hw.elim (· ▸ h.dr.mem hov) id⟩) (fun _ => hov) (Nat.le_add_left 1 _),
      fun a p x ha hp => (h.pnd a p x ha hp).imp_right (List.mem_cons_of_mem _)⟩
    have := h.own w; have := upd_add s.owners v w; have := count_cons_cellIs s.out v w
    show upd s.owners v (s.owners v + 1) w = cellIs s.cell w + (v :: s.out).count w
    omega

/-- a call takes its argument, a value never seen before, from the caller -/
theorem ld_acquire {s : Sys} (h : Ld s) (i : Nat) (r : Req) (hf : freshOk s (newValue r) = true) :
    Ld (takeIn (setPc s i (.locked r)) (newValue r)) := by
  cases hn : newValue r with
  | none => exact ld_setPc h i _ (fun v hv => by rw [PC.pending, hn] at hv; cases hv)
  | some v =>
    have hfresh : v ∉ s.made := by simpa [freshOk, hn] using hf
    have hv0 := h.dr.mad v hfresh
    refine ⟨fun w => ?_, h.dr.gain (fun w => List.mem_cons) (fun hm => absurd hm hfresh) (Nat.le_refl 1), fun a p x ha hp => ?_⟩
    · have := h.own w; have := count_cons_cellIs s.out v w
      have := upd_add s.owners v w; rw [hv0, Nat.zero_add] at this
      show upd s.owners v 1 w = cellIs s.cell w + (v :: s.out).count w
      omega
    · rcases getElem?_set_cases _ _ _ _ _ ha with ⟨_, rfl⟩ | ⟨_, ha'⟩
      · rw [PC.pending, hn] at hp; cases hp; exact ⟨List.mem_cons_self, List.mem_cons_self⟩
      · exact (h.pnd a p x ha' hp).imp (List.mem_cons_of_mem _) (List.mem_cons_of_mem _)

/-- a caller lets go of a handle that is its own to drop -/
theorem ld_drop {s : Sys} (h : Ld s) (v : Nat) (hvo : v ∈ s.out) (hp : ∀ p ∈ s.pcs, p.pending ≠ some v) :
    Ld (dec { s with out := s.out.erase v } v) := by
  refine ld_decOpt { s with out := s.out.erase v } (some v) (fun w => ?_) h.dr (fun a p x ha hpx => ?_)
  · have := h.own w; have := count_erase_cellIs hvo w
    show s.owners w = cellIs s.cell w + (s.out.erase v).count w + cellIs (some v) w
    omega
  · have hx := h.pnd a p x ha hpx
    exact ⟨hx.1, (List.mem_erase_of_ne (fun e : x = v => hp p (List.mem_of_getElem? ha) (e ▸ hpx))).mpr hx.2⟩

theorem ld_step {F : Facts} {s s' : Sys} (h : Ld s) (i : Nat) (a : Act)
    (hs : step F s i a = some s') : Ld s' := by
  unfold step at hs
  split at hs
  · cases hs
  rename_i pc hi
  have pend : ∀ {v}, pc.pending = some v → v ∈ s.made ∧ v ∈ s.out := h.pnd i pc _ hi
  -- the alternatives of `step` in its order: the ledger operation, then `setPc`, then `log`
  split at hs
  · obtain ⟨hc, hs⟩ := Option.ite_none_right_eq_some.mp hs
    cases hs
    exact ld_acquire h i _ (Bool.and_eq_true_iff.mp hc).2
  · cases hs; exact ld_log (ld_setPc' (ld_store h _ (pend rfl).2) i rfl) ..
  · cases hs; exact ld_setPc h i _ (fun x hx => by cases hx; exact pend rfl)
  · cases hs; exact ld_log (ld_setPc' h i rfl) ..
  · cases hs; exact ld_log (ld_setPc' (ld_store h _ (pend rfl).2) i rfl) ..
  · cases hs; exact ld_log (ld_setPc' (ld_share h) i rfl) ..
  · cases hs; exact ld_log (ld_setPc' (ld_clear h) i rfl) ..
  · cases hs; exact ld_setPc' h i rfl
  · obtain ⟨hc, hs⟩ := Option.ite_none_right_eq_some.mp hs
    cases hs
    simp only [Bool.and_eq_true, List.contains_iff_mem, List.all_eq_true, bne_iff_ne, ne_eq] at hc
    exact ld_drop h _ hc.1 hc.2
  · obtain ⟨_, hs⟩ := Option.ite_none_right_eq_some.mp hs
    cases hs; exact ld_log (ld_clear h) ..
  · cases hs

theorem ld_reachable {F : Facts} {n : Nat} {s : Sys} (h : Reachable F n s) : Ld s := by
  induction h with
  | init => exact ld_init n
  | step i a _ hs ih => exact ld_step ih i a hs

end Cst.DataSlot
