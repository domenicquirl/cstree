/- the invariants of the node cache and the builder, and what absorbing the events of a tree leaves behind
   (C01, C04, C11, C16) -/
import CstModel.Proofs.BuilderOps
import CstModel.Proofs.Lists
namespace Cst

/-- cache invariant: every token entry is the token its key describes, every node entry has the
    head its key describes, and everything stored is well-formed w.r.t. the cache's interner.
    Holds for the empty cache and is preserved by every operation — hence after any history. -/
structure CacheInv (cfg : Cfg) (c : Cache) : Prop where
  toks : ∀ d g, (d, g) ∈ c.toks → (∃ id, g = Green.tok id d.1 d.2.1 d.2.2) ∧ GWf cfg c.interner g
  nodes : ∀ h g, (h, g) ∈ c.nodes → (∃ id cs, g = Green.node id h.1 h.2.1 h.2.2 cs) ∧ GWf cfg c.interner g

theorem CacheInv.empty (cfg : Cfg) (I : Interner) : CacheInv cfg (Cache.empty I) :=
  ⟨by simp [Cache.empty], by simp [Cache.empty]⟩

theorem CacheInv.mono {cfg : Cfg} {c : Cache} {J : Interner} (h : CacheInv cfg c)
    (hp : c.interner.strs <+: J.strs) : CacheInv cfg { c with interner := J } :=
  ⟨fun d g hm => ⟨(h.toks d g hm).1, GWf_mono hp g (h.toks d g hm).2⟩,
   fun hd g hm => ⟨(h.nodes hd g hm).1, GWf_mono hp g (h.nodes hd g hm).2⟩⟩

theorem GWf_tok_id {cfg : Cfg} {I : Interner} {i j k : Nat} {key : Option Nat} {l : Nat}
    (h : GWf cfg I (.tok i k key l)) : GWf cfg I (.tok j k key l) := by
  cases key <;> exact h

/-- `NodeCache::token`: returns exactly the token described by the data, keeps the invariant -/
theorem Cache.token_spec {cfg : Cfg} {c : Cache} (hc : CacheInv cfg c) (d : TokData)
    (hd : GWf cfg c.interner (Green.tok 0 d.1 d.2.1 d.2.2)) :
    CacheInv cfg (c.token d).2 ∧ ∃ id, (c.token d).1 = Green.tok id d.1 d.2.1 d.2.2 := by
  have hinv : CacheInv cfg (c.token d).2 := by
    refine ⟨fun d' g hm => ?_, fun h g hm => ?_⟩ <;> rw [Cache.token_interner]
    · rcases Cache.token_toks c d hm with hm | hm
      · exact hc.toks d' g hm
      · rw [Prod.mk.injEq] at hm; obtain ⟨rfl, rfl⟩ := hm; exact ⟨⟨_, rfl⟩, GWf_tok_id hd⟩
    · rw [Cache.token_nodes] at hm; exact hc.nodes h g hm
  exact ⟨hinv, (hinv.toks d _ (lookup_mem (Cache.token_lookup c d))).1⟩

/-- `NodeCache::node`: the invariant is kept, and the answer is a well-formed node with exactly the head the
    children demand and — when the lookup compares them — children equal to the given ones up to sharing -/
theorem Cache.node_spec {cfg : Cfg} {c : Cache} (hc : CacheInv cfg c) (kind : Nat) {cs : List Green}
    (hcs : GWfL cfg c.interner cs) :
    CacheInv cfg (c.node cfg kind cs).2 ∧ GWf cfg c.interner (c.node cfg kind cs).1 ∧
      ∃ id cs', (c.node cfg kind cs).1 = .node id kind (sumLen cs) (cfg.H cs) cs' ∧
        (cfg.cmpChildren = true → Green.beqL cs' cs = true) := by
  have fresh : GWf cfg c.interner (c.newNode cfg kind cs) := by simp [GWf, hcs]
  refine c.node_cases cfg kind cs (fun e _ hf => ?_) (fun _ _ => ?_) (fun _ => ?_)
  · obtain ⟨he, hb⟩ := Cfg.hit_iff.mp (List.find?_some hf)
    obtain ⟨⟨id, cs', hg⟩, hw⟩ := hc.nodes _ _ (List.mem_of_find?_eq_some hf)
    rw [he] at hg
    exact ⟨hc, hw, id, cs', hg, by simpa [hg, Green.children] using hb⟩
  · refine ⟨⟨hc.toks, fun h g hm => ?_⟩, fresh, _, _, rfl, fun _ => Green.beqL_refl cs⟩
    rcases List.mem_cons.mp hm with hm | hm
    · cases hm; exact ⟨⟨_, _, rfl⟩, fresh⟩
    · exact hc.nodes h g hm
  · exact ⟨⟨hc.toks, hc.nodes⟩, fresh, _, _, rfl, fun _ => Green.beqL_refl cs⟩

/-- with children compared on a hit the answer resolves like a node over the given children, whatever the hash
    function does -/
theorem Cache.node_resolve {cfg : Cfg} (hcmp : cfg.cmpChildren = true) {c : Cache} (hc : CacheInv cfg c) (kind : Nat)
    {cs : List Green} (hcs : GWfL cfg c.interner cs) (I : Interner) :
    resolveG cfg I (c.node cfg kind cs).1 = (resolveL cfg I cs).map (Tree.node kind) := by
  obtain ⟨_, _, id, cs', hg, hb⟩ := Cache.node_spec hc kind hcs
  rw [hg, resolveG, resolveL_of_beqL cs' cs (hb hcmp)]

/-! ### running event lists -/

theorem Builder.run_append (cfg : Cfg) (b : Builder) (xs ys : List Ev) :
    b.run cfg (xs ++ ys) = (match b.run cfg xs with | .ok b' => b'.run cfg ys | .error p => .error p) := by
  induction xs generalizing b with
  | nil => simp [Builder.run]
  | cons e es ih =>
    simp only [List.cons_append, Builder.run]
    cases b.step cfg e with
    | ok b' => simpa using ih b'
    | error p => rfl

theorem Builder.run_cons_ok {cfg : Cfg} {b b' : Builder} {e : Ev} {es : List Ev} :
    b.run cfg (e :: es) = .ok b' ↔ ∃ b1, b.step cfg e = .ok b1 ∧ b1.run cfg es = .ok b' := by
  rw [Builder.run]; cases b.step cfg e <;> simp

theorem Builder.run_append_ok {cfg : Cfg} {b b' : Builder} {xs ys : List Ev} :
    b.run cfg (xs ++ ys) = .ok b' ↔ ∃ b1, b.run cfg xs = .ok b1 ∧ b1.run cfg ys = .ok b' := by
  rw [Builder.run_append]; cases b.run cfg xs <;> simp

/-- builder invariant: cache invariant + every element on the child stack is well-formed -/
structure BInv (cfg : Cfg) (b : Builder) : Prop where
  cache : CacheInv cfg b.cache
  kids : GWfL cfg b.cache.interner b.children

/-- static-kind tokens are offered with their static text (what the debug assert demands) -/
def StaticOkTok (cfg : Cfg) (k : Nat) (s : Text) : Prop := ∀ st, cfg.staticText k = some st → s = st

mutual
def StaticOk (cfg : Cfg) : Tree → Prop
  | .tok k s => StaticOkTok cfg k s
  | .node _ cs => StaticOkL cfg cs
def StaticOkL (cfg : Cfg) : List Tree → Prop
  | [] => True
  | t :: ts => StaticOk cfg t ∧ StaticOkL cfg ts
end

/-- what one successfully absorbed element leaves behind -/
structure Pushed (cfg : Cfg) (b b' : Builder) (ts : List Tree) (n : Nat) : Prop where
  parents : b'.parents = b.parents
  inv : BInv cfg b'
  pre : b.cache.interner.strs <+: b'.cache.interner.strs
  cap : b'.cache.interner.cap = b.cache.interner.cap
  grow : b'.cache.interner.strs.length ≤ b.cache.interner.strs.length + n
  kids : ∃ gs, b'.children = b.children ++ gs ∧ resolveL cfg b'.cache.interner gs = some ts

theorem Pushed.refl {cfg : Cfg} {b : Builder} (hb : BInv cfg b) : Pushed cfg b b [] 0 :=
  ⟨rfl, hb, List.prefix_refl _, rfl, Nat.le_refl _, ⟨[], by simp, by simp [resolveL]⟩⟩

theorem Pushed.trans {cfg : Cfg} {b b1 b2 : Builder} {ts us : List Tree} {n m : Nat}
    (h1 : Pushed cfg b b1 ts n) (h2 : Pushed cfg b1 b2 us m) : Pushed cfg b b2 (ts ++ us) (n + m) := by
  obtain ⟨gs, hk1, hr1⟩ := h1.kids
  obtain ⟨hs, hk2, hr2⟩ := h2.kids
  refine ⟨h2.parents.trans h1.parents, h2.inv, List.IsPrefix.trans h1.pre h2.pre, h2.cap.trans h1.cap, ?_, ⟨gs ++ hs, ?_, ?_⟩⟩
  · exact Nat.le_trans h2.grow (by rw [← Nat.add_assoc]; exact Nat.add_le_add_right h1.grow m)
  · rw [hk2, hk1, List.append_assoc]
  · exact resolveL_append gs hs ts us (resolveL_mono h2.pre gs ts hr1) hr2

/-! ### `token`: prepare (check the static text or intern), then push what the token cache answers -/

theorem TokPrep.grows {cfg : Cfg} {I I' : Interner} {k : Nat} {s : Text} {key : Option Nat} (h : TokPrep cfg I k s key I') :
    I.strs <+: I'.strs ∧ I'.cap = I.cap ∧ I'.strs.length ≤ I.strs.length + 1 := by
  cases h with
  | static => exact ⟨List.prefix_refl _, rfl, Nat.le_succ _⟩
  | interned _ hi => exact ⟨(intern_prefix hi).1, (intern_prefix hi).2, intern_length_le hi⟩

theorem TokPrep.wf {cfg : Cfg} {I I' : Interner} {k : Nat} {s : Text} {key : Option Nat} (h : TokPrep cfg I k s key I')
    (id : Nat) : GWf cfg I' (.tok id k key (blen (cfg.tokText k s))) ∧
      resolveG cfg I' (.tok id k key (blen (cfg.tokText k s))) = some (.tok k (cfg.tokText k s)) := by
  cases h with
  | static hst => simp [GWf, resolveG, Cfg.tokText, hst]
  | interned hst hi => simp [GWf, resolveG, Cfg.tokText, hst, intern_resolve hi]

/-- when `token` cannot panic: the static text is the one offered (or nobody checks), and a new string finds room -/
theorem TokPrep.exists {cfg : Cfg} (I : Interner) (k : Nat) (s : Text)
    (hs : cfg.debug = true → StaticOkTok cfg k s) (hcap : I.strs.length + 1 ≤ I.cap) :
    ∃ key I', TokPrep cfg I k s key I' := by
  cases hst : cfg.staticText k with
  | some st => exact ⟨_, _, .static hst fun hd => (hs hd st hst).symm⟩
  | none =>
    cases hi : I.intern s with
    | none => have := (intern_eq_none.mp hi).2; omega
    | some r => exact ⟨_, _, .interned hst hi⟩

theorem Pushed.withInterner {cfg : Cfg} {b : Builder} (hb : BInv cfg b) {I' : Interner}
    (hp : b.cache.interner.strs <+: I'.strs) (hcap : I'.cap = b.cache.interner.cap) {n : Nat}
    (hn : I'.strs.length ≤ b.cache.interner.strs.length + n) : Pushed cfg b (b.withInterner I') [] n :=
  ⟨rfl, ⟨hb.cache.mono hp, GWfL_mono hp _ hb.kids⟩, hp, hcap, hn, [], by simp [Builder.withInterner], rfl⟩

theorem Pushed.pushTok {cfg : Cfg} {b : Builder} (hb : BInv cfg b) (d : TokData) {t : Tree}
    (hd : ∀ id, GWf cfg b.cache.interner (.tok id d.1 d.2.1 d.2.2) ∧
      resolveG cfg b.cache.interner (.tok id d.1 d.2.1 d.2.2) = some t) : Pushed cfg b (b.pushTok d) [t] 0 := by
  obtain ⟨hci, id, hid⟩ := Cache.token_spec hb.cache d (hd 0).1
  have hi : (b.pushTok d).cache.interner = b.cache.interner := Cache.token_interner _ _
  refine ⟨rfl, ⟨hci, ?_⟩, by rw [hi]; exact List.prefix_refl _, by rw [hi], by rw [hi]; exact Nat.le_refl _, _, rfl, ?_⟩
  · rw [hi]; exact GWfL_append.mpr ⟨hb.kids, by rw [hid]; exact ⟨(hd id).1, trivial⟩⟩
  · rw [hi, hid, resolveL_eq_singleton]; exact ⟨_, rfl, (hd id).2⟩

theorem token_pushed {cfg : Cfg} {b b' : Builder} (hb : BInv cfg b) {k : Nat} {s : Text} (h : b.token cfg k s = .ok b') :
    Pushed cfg b b' [.tok k (cfg.tokText k s)] 1 := by
  obtain ⟨key, I', hp, rfl⟩ := Builder.token_ok_iff.mp h
  have h1 := Pushed.withInterner hb hp.grows.1 hp.grows.2.1 hp.grows.2.2
  exact h1.trans (Pushed.pushTok h1.inv (k, key, blen (cfg.tokText k s)) hp.wf)

theorem token_total {cfg : Cfg} (b : Builder) (k : Nat) (s : Text) (hs : cfg.debug = true → StaticOkTok cfg k s)
    (hcap : b.cache.interner.strs.length + 1 ≤ b.cache.interner.cap) : ∃ b', b.token cfg k s = .ok b' := by
  obtain ⟨key, I', hp⟩ := TokPrep.exists b.cache.interner k s hs hcap
  exact ⟨_, Builder.token_ok_iff.mpr ⟨key, I', hp, rfl⟩⟩

theorem Cfg.tokText_of_ok {cfg : Cfg} {k : Nat} {s : Text} (hs : StaticOkTok cfg k s) : cfg.tokText k s = s := by
  unfold Cfg.tokText
  cases h : cfg.staticText k with
  | none => rfl
  | some st => exact (hs st h).symm

/-! ### `finish_node` -/

/-- `finish_node` keeps the builder invariant (any state, not only tree-shaped histories) and replaces the elements
    from the node's first child on by a node over them -/
theorem finishNode_inv {cfg : Cfg} {b b' : Builder} (hb : BInv cfg b) (h : b.finishNode cfg = .ok b') :
    BInv cfg b' ∧ b'.cache.interner = b.cache.interner ∧
      ∃ k first g, b.parents.getLast? = some (k, first) ∧ b'.parents = b.parents.dropLast ∧
        b'.children = b.children.take first ++ [g] ∧ g.isNode = true ∧
        (cfg.cmpChildren = true → ∀ I, resolveG cfg I g = (resolveL cfg I (b.children.drop first)).map (Tree.node k)) := by
  obtain ⟨k, first, hl, _, rfl⟩ := Builder.finishNode_ok_iff.mp h
  have hkids := hb.kids
  rw [← List.take_append_drop first b.children, GWfL_append] at hkids
  obtain ⟨hci, hgw, id, cs', hg, _⟩ := Cache.node_spec hb.cache k hkids.2
  refine ⟨⟨hci, ?_⟩, Cache.node_interner .., k, first, _, hl, rfl, rfl, by rw [hg]; rfl,
    fun hcmp I => Cache.node_resolve hcmp hb.cache k hkids.2 I⟩
  simp only [Cache.node_interner]
  exact GWfL_append.mpr ⟨hkids.1, hgw, trivial⟩

/-- `finish_node` after the children of the node have been absorbed -/
theorem finish_pushed {cfg : Cfg} (hcmp : cfg.cmpChildren = true) {b0 b : Builder} (k : Nat)
    (ts : List Tree) (n : Nat) (h : Pushed cfg (b0.startNode k) b ts n) :
    ∃ b', b.finishNode cfg = .ok b' ∧ Pushed cfg b0 b' [.node k ts] n := by
  obtain ⟨gs, hk, hr⟩ := h.kids
  have hpar : b.parents = b0.parents ++ [(k, b0.children.length)] := h.parents
  have hkids : b.children = b0.children ++ gs := hk
  have hl : b.parents.getLast? = some (k, b0.children.length) := by rw [hpar]; simp
  obtain ⟨b', hb'⟩ : ∃ b', b.finishNode cfg = .ok b' :=
    ⟨_, Builder.finishNode_ok_iff.mpr ⟨_, _, hl, by simp [hkids], rfl⟩⟩
  obtain ⟨hinv, hint, k', first, g, hl', hp', hc', _, hres⟩ := finishNode_inv h.inv hb'
  rw [hl] at hl'; cases hl'
  refine ⟨b', hb', hp'.trans (by simp [hpar]), hinv, hint ▸ h.pre, hint ▸ h.cap, hint ▸ h.grow, [g], by simp [hc', hkids], ?_⟩
  rw [resolveL_eq_singleton]
  exact ⟨g, rfl, by rw [hres hcmp, hkids, List.drop_left, hint, hr]; rfl⟩

mutual
/-- absorbing the events of one tree pushes exactly one element that resolves to that tree -/
theorem run_tree {cfg : Cfg} (hcmp : cfg.cmpChildren = true) :
    (t : Tree) → (b : Builder) → BInv cfg b → StaticOk cfg t →
    b.cache.interner.strs.length + t.nTokens ≤ b.cache.interner.cap →
    ∃ b', b.run cfg t.events = .ok b' ∧ Pushed cfg b b' [t] t.nTokens
  | .tok k s, b, hb, hs, hcap => by
    obtain ⟨b', hb'⟩ := token_total b k s (fun _ => hs) hcap
    have hp := token_pushed hb hb'
    rw [Cfg.tokText_of_ok hs] at hp
    exact ⟨b', by simp [Tree.events, Builder.run, Builder.step, hb'], hp⟩
  | .node k cs, b, hb, hs, hcap => by
    have hb1 : BInv cfg (b.startNode k) := ⟨hb.cache, hb.kids⟩
    obtain ⟨b2, hr2, hp2⟩ := run_trees hcmp cs (b.startNode k) hb1 hs (by simpa [Tree.nTokens, Builder.startNode] using hcap)
    obtain ⟨b3, hr3, hp3⟩ := finish_pushed hcmp k cs _ hp2
    refine ⟨b3, ?_, hp3⟩
    simp only [Tree.events, Builder.run, Builder.step]
    rw [Builder.run_append, hr2]
    simp [Builder.run, Builder.step, hr3]
theorem run_trees {cfg : Cfg} (hcmp : cfg.cmpChildren = true) :
    (ts : List Tree) → (b : Builder) → BInv cfg b → StaticOkL cfg ts →
    b.cache.interner.strs.length + Tree.nTokensL ts ≤ b.cache.interner.cap →
    ∃ b', b.run cfg (Tree.eventsL ts) = .ok b' ∧ Pushed cfg b b' ts (Tree.nTokensL ts)
  | [], b, hb, _, _ => ⟨b, by simp [Tree.eventsL, Builder.run], Pushed.refl hb⟩
  | t :: ts, b, hb, hs, hcap => by
    simp only [Tree.nTokensL] at hcap
    obtain ⟨b1, hr1, hp1⟩ := run_tree hcmp t b hb hs.1 (by omega)
    obtain ⟨b2, hr2, hp2⟩ := run_trees hcmp ts b1 hp1.inv hs.2 (by have := hp1.grow; have := hp1.cap; omega)
    refine ⟨b2, ?_, ?_⟩
    · simp only [Tree.eventsL]; rw [Builder.run_append, hr1]; exact hr2
    · have := hp1.trans hp2; simpa [Tree.nTokensL] using this
end

/-- **a whole build**: the events of a tree, through any invariant-respecting cache with room in the key space, build a
    green tree that resolves to exactly that tree; the cache invariant is kept and the interner grew by at most one
    string per token -/
theorem build_tree {cfg : Cfg} (hcmp : cfg.cmpChildren = true) {c : Cache} (hc : CacheInv cfg c)
    (k : Nat) (cs : List Tree) (hs : StaticOk cfg (.node k cs))
    (hcap : c.interner.strs.length + (Tree.node k cs).nTokens ≤ c.interner.cap) :
    ∃ g c', build cfg c (Tree.node k cs).events = .ok (g, c') ∧
      resolveG cfg c'.interner g = some (.node k cs) ∧ g.len = blen (Tree.node k cs).text ∧
      CacheInv cfg c' ∧ c.interner.strs <+: c'.interner.strs ∧ c'.interner.cap = c.interner.cap ∧
      c'.interner.strs.length ≤ c.interner.strs.length + (Tree.node k cs).nTokens := by
  obtain ⟨b', hr, hp⟩ := run_tree hcmp (.node k cs) (Builder.new c) ⟨hc, trivial⟩ hs hcap
  obtain ⟨gs, hk, hres⟩ := hp.kids
  obtain ⟨g, rfl, hg⟩ := resolveL_eq_singleton.mp hres
  have hk : b'.children = [g] := hk
  have hw : GWf cfg b'.cache.interner g := (hk ▸ hp.inv.kids).1
  obtain ⟨t, ht, hl⟩ := resolve_of_GWf g hw
  rw [hg] at ht; cases ht
  have hnode : g.isNode = true := by
    cases g with
    | tok _ _ key _ => cases key <;> simp [resolveG] at hg
    | node _ _ _ _ _ => rfl
  exact ⟨g, b'.cache, by rw [build, hr]; exact Builder.finish_ok_iff.mpr ⟨g, hk, hnode, rfl⟩, hg, hl, hp.inv.cache,
    hp.pre, hp.cap, hp.grow⟩

end Cst
