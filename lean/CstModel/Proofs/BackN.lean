/-
  Proofs/BackN — closed forms of the backward node-only hops: `last_child` is the last child that is a
  node, `prev_sibling` the closest preceding sibling that is a node.
-/
import CstModel.Proofs.Nav
namespace Cst
open Red

/-- backwards from `k`: a node, with only tokens between it and `k`; `none` only when there is no node before `k` -/
theorem firstNode_to (cs : List Green) (k : Nat) (hk : k ≤ cs.length) : ∀ off,
    match firstNode (childrenTo cs k off) with
    | some e => cs[e.2.1]? = some e.1 ∧ e.1.isNode = true ∧ e.2.1 < k ∧
        ∀ j c, e.2.1 < j → j < k → cs[j]? = some c → c.isNode = false
    | none => ∀ j c, j < k → cs[j]? = some c → c.isNode = false := by
  induction k with
  | zero => intro off; rw [childrenTo_zero]; exact fun j c h => absurd h (Nat.not_lt_zero _)
  | succ k ih =>
    intro off
    obtain ⟨x, hc⟩ : ∃ x, cs[k]? = some x := ⟨_, List.getElem?_eq_getElem hk⟩
    rw [childrenTo_succ hc, firstNode]
    by_cases hnode : x.isNode = true
    · rw [if_pos hnode]; exact ⟨hc, hnode, Nat.lt_succ_self _, fun j c h1 h2 => absurd h1 (Nat.not_lt_of_le (Nat.le_of_lt_succ h2))⟩
    · rw [if_neg hnode]
      have step : ∀ j c, j < k + 1 → ¬ j < k → cs[j]? = some c → c.isNode = false := fun j c h1 h2 h => by
        cases Nat.le_antisymm (Nat.le_of_lt_succ h1) (Nat.le_of_not_lt h2)
        rw [hc] at h; cases h; exact Bool.eq_false_iff.mpr hnode
      have := ih (Nat.le_of_succ_le hk) (off - x.len)
      split at this
      · exact ⟨this.1, this.2.1, Nat.lt_succ_of_lt this.2.2.1, fun j c h1 h2 h =>
          if h' : j < k then this.2.2.2 j c h1 h' h else step j c h2 h' h⟩
      · exact fun j c h1 h => if h' : j < k then this j c h' h else step j c h1 h' h

/-- the answer of `last_child` is a node child and every later child is a token -/
theorem lastChild_spec (r : Red) (p : Path) (t : Green) (o : Nat) (hg : r.green p = some t) (hs : r.start p = some o) :
    match (r.lastChild p).1 with
    | some x => ∃ j c, x = p ++ [j] ∧ t.children[j]? = some c ∧ c.isNode = true ∧
                ∀ (j' : Nat) (c' : Green), j < j' → t.children[j']? = some c' → c'.isNode = false
    | none => ∀ c, c ∈ t.children → c.isNode = false := by
  simp only [Red.lastChild, hg, hs, pick_path]
  have := firstNode_to t.children _ (Nat.le_refl _) (o + t.len)
  cases hf : firstNode (childrenTo t.children t.children.length (o + t.len)) with
  | none =>
    rw [hf] at this
    exact fun c hc => (List.getElem?_of_mem hc).elim fun j hj => this j c (List.getElem?_eq_some_iff.mp hj).1 hj
  | some e =>
    rw [hf] at this
    exact ⟨e.2.1, e.1, rfl, this.1, this.2.1, fun j' c' h hc => this.2.2.2 j' c' h (List.getElem?_eq_some_iff.mp hc).1 hc⟩

/-- the answer of `prev_sibling` is a node before index `i` with only tokens between it and `i` -/
theorem prevSibling_spec (r : Red) (q : Path) (i : Nat) (tq : Green) (se : Nat × Nat)
    (hq : r.green q = some tq) (hi : i < tq.children.length) (hr : r.range (q ++ [i]) = some se) :
    match (r.prevSibling (q ++ [i])).1 with
    | some x => ∃ j c, x = q ++ [j] ∧ j < i ∧ tq.children[j]? = some c ∧ c.isNode = true ∧
                ∀ (j' : Nat) (c' : Green), j < j' → j' < i → tq.children[j']? = some c' → c'.isNode = false
    | none => ∀ (j : Nat) (c : Green), j < i → tq.children[j]? = some c → c.isNode = false := by
  simp only [Red.prevSibling, split_snoc, hr, Red.prevChildBefore, hq, pick_path]
  have := firstNode_to tq.children i (Nat.le_of_lt hi) se.1
  cases hf : firstNode (childrenTo tq.children i se.1) with
  | none => rw [hf] at this; exact this
  | some e => rw [hf] at this; exact ⟨e.2.1, e.1, rfl, this.2.2.1, this.1, this.2.1, this.2.2.2⟩

end Cst
