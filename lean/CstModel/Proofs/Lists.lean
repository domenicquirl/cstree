/- lists under `set`: element lookup, and sums (what the counting arguments of `Proofs/Conc` and `Proofs/MemModel` share) -/
namespace Cst

theorem getElem?_set_cases {α} (l : List α) (i j : Nat) (x y : α) (h : (l.set i x)[j]? = some y) :
    (j = i ∧ y = x) ∨ (j ≠ i ∧ l[j]? = some y) := by
  by_cases hji : j = i
  · subst hji
    rw [List.getElem?_set_self'] at h
    cases hl : l[j]? with
    | none => simp [hl] at h
    | some z => simp [hl] at h; exact Or.inl ⟨rfl, h.symm⟩
  · rw [List.getElem?_set_ne (Ne.symm hji)] at h
    exact Or.inr ⟨hji, h⟩

theorem getElem?_set_self_some {α} (l : List α) (i : Nat) (x y : α) (h : l[i]? = some y) : (l.set i x)[i]? = some x := by
  rw [List.getElem?_set_self']
  simp [h]

theorem getElem?_set_other {α} {l : List α} {i j : Nat} {x y : α} (h : l[j]? = some y) (hne : j ≠ i) :
    (l.set i x)[j]? = some y := by rw [List.getElem?_set_ne (Ne.symm hne)]; exact h

theorem mem_getElem? {α} {l : List α} {x : α} (h : x ∈ l) : ∃ k : Nat, l[k]? = some x := by
  obtain ⟨k, hk, hx⟩ := List.getElem_of_mem h
  exact ⟨k, by rw [List.getElem?_eq_getElem hk, hx]⟩

theorem lookup_mem {α β : Type} [BEq α] [LawfulBEq α] {l : List (α × β)} {a : α} {b : β}
    (h : l.lookup a = some b) : (a, b) ∈ l := by
  obtain ⟨l₁, l₂, rfl, _⟩ := List.lookup_eq_some_iff.mp h
  simp

/-- a tail of a list that starts with `c` starts at the index of `c` -/
theorem drop_eq_cons {α} {l : List α} {i : Nat} {c : α} {cs : List α} (h : l.drop i = c :: cs) :
    l[i]? = some c ∧ l.drop (i + 1) = cs :=
  ⟨by rw [← List.head?_drop, h]; rfl, by rw [← List.tail_drop, h]; rfl⟩

variable {α : Type} (f : α → Int)

theorem sum_map_set (l : List α) (i : Nat) (t u : α) (h : l[i]? = some t) :
    ((l.set i u).map f).sum = (l.map f).sum - f t + f u := by
  induction l generalizing i with
  | nil => cases h
  | cons x xs ih =>
    cases i with
    | zero => cases h; simp only [List.set_cons_zero, List.map_cons, List.sum_cons]; omega
    | succ n => have := ih n h; simp only [List.set_cons_succ, List.map_cons, List.sum_cons]; omega

theorem sum_map_nonneg (hf : ∀ a, 0 ≤ f a) (l : List α) : 0 ≤ (l.map f).sum := by
  induction l with
  | nil => exact Int.le_refl 0
  | cons x xs ih => have := hf x; simp only [List.map_cons, List.sum_cons]; omega

theorem le_sum_map (hf : ∀ a, 0 ≤ f a) (l : List α) (i : Nat) (t : α) (h : l[i]? = some t) : f t ≤ (l.map f).sum := by
  induction l generalizing i with
  | nil => cases h
  | cons x xs ih =>
    simp only [List.map_cons, List.sum_cons]
    cases i with
    | zero => cases h; have := sum_map_nonneg f hf xs; omega
    | succ n => have := ih n h; have := hf x; omega

end Cst
