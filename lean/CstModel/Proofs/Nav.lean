/- which position each hop returns and which positions the child iterators yield, read off the two routes by index -/
import CstModel.Proofs.Red
namespace Cst
open Red

theorem C03.parent_child (p : Path) (i : Nat) : Red.parent (p ++ [i]) = some p := by
  simp [Red.parent, Red.split]

theorem split_snoc (q : Path) (i : Nat) : Red.split (q ++ [i]) = some (q, i) := by simp [Red.split]

theorem C03.get_child (g : Green) (p : Path) (t : Green) (hg : Green.get g p = some t)
    (i : Nat) (c : Green) (hc : t.children[i]? = some c) : Green.get g (p ++ [i]) = some c := by
  rw [get_append_single, hg]; exact hc

/-- the entries of `childrenFromGo` carry consecutive indices starting at `i` -/
theorem childrenFromGo_indices (rest : List Green) (i o : Nat) :
    (childrenFromGo rest i o).map (fun e => (e.1, e.2.1)) = rest.zipIdx i := by
  induction rest generalizing i o with
  | nil => rfl
  | cons c rest ih => simp [childrenFromGo, List.zipIdx_cons, ih]

/-! ### heads of the routes: the `…_or_token` hops -/

theorem childrenFrom_head (cs : List Green) (k off : Nat) :
    (childrenFrom cs k off).head? = (cs[k]?).map (fun c => (c, k, off)) := by
  cases h : cs[k]? with
  | none => rw [childrenFrom_of_le (List.getElem?_eq_none_iff.mp h)]; rfl
  | some c => rw [childrenFrom_cons h]; rfl

theorem childrenTo_head {α : Type} (f : Nat → α) (cs : List Green) (k off : Nat) (hk : k ≤ cs.length) :
    ((childrenTo cs k off).head?).map (fun e => f e.2.1) = if k = 0 then none else some (f (k - 1)) := by
  cases k with
  | zero => rw [childrenTo_zero]; rfl
  | succ k => rw [childrenTo_succ (List.getElem?_eq_getElem hk)]; rfl

section
variable (r : Red) (p : Path) (g : Green) (o : Nat) (hg : r.green p = some g) (hs : r.start p = some o)
include hg hs

/-- `first_child_or_token` is child 0 (none for a childless node) -/
theorem C03.firstChildOrToken_spec : (r.firstChildOrToken p).1 = if g.children = [] then none else some (p ++ [0]) := by
  simp only [Red.firstChildOrToken, hg, hs, pick_path, childrenFrom_head]
  cases g.children <;> rfl

/-- `last_child_or_token` is the last child -/
theorem C03.lastChildOrToken_spec :
    (r.lastChildOrToken p).1 = if g.children = [] then none else some (p ++ [g.children.length - 1]) := by
  simp only [Red.lastChildOrToken, hg, hs, pick_path]
  rw [childrenTo_head (fun j => p ++ [j]) _ _ _ (Nat.le_refl _)]
  cases g.children <;> rfl

end

section
variable (r : Red) (q : Path) (i : Nat) (t : Green) (se : Nat × Nat) (ht : r.green q = some t)
include ht

/-- `next_sibling_or_token` of child `i` of `q` is child `i + 1` (none for the last child) -/
theorem C03.nextSiblingOrToken_spec (hr : r.range (q ++ [i]) = some se) :
    (r.nextSiblingOrToken (q ++ [i])).1 = if i + 1 < t.children.length then some (q ++ [i + 1]) else none := by
  simp only [Red.nextSiblingOrToken, split_snoc, hr, Red.nextChildOrTokenAfter, ht, pick_path, childrenFrom_head]
  split
  · next h => rw [List.getElem?_eq_getElem h]; rfl
  · next h => rw [List.getElem?_eq_none (Nat.le_of_not_lt h)]; rfl

/-- `prev_sibling_or_token` of child `i` of `q` is child `i - 1` (none for the first child) -/
theorem C03.prevSiblingOrToken_spec (hi : i < t.children.length) (hr : r.range (q ++ [i]) = some se) :
    (r.prevSiblingOrToken (q ++ [i])).1 = if i = 0 then none else some (q ++ [i - 1]) := by
  simp only [Red.prevSiblingOrToken, split_snoc, hr, Red.prevChildOrTokenBefore, ht, pick_path]
  rw [childrenTo_head (fun j => q ++ [j]) _ _ _ (Nat.le_of_lt hi)]

end

/-! ### the first node on a route: the nodes-only hops -/

/-- forwards from `k`: a node, with only tokens between `k` and it; `none` only when there is no node from `k` on -/
theorem firstNode_from (cs : List Green) (n : Nat) : ∀ k off, cs.length - k = n →
    match firstNode (childrenFrom cs k off) with
    | some e => cs[e.2.1]? = some e.1 ∧ e.1.isNode = true ∧ k ≤ e.2.1 ∧
        ∀ j c, k ≤ j → j < e.2.1 → cs[j]? = some c → c.isNode = false
    | none => ∀ j c, k ≤ j → cs[j]? = some c → c.isNode = false := by
  induction n with
  | zero =>
    intro k off hn
    rw [childrenFrom_of_le (Nat.le_of_sub_eq_zero hn)]
    intro j c hj hc
    exact absurd (List.getElem?_eq_some_iff.mp hc).1 (Nat.not_lt_of_le (Nat.le_trans (Nat.le_of_sub_eq_zero hn) hj))
  | succ n ih =>
    intro k off hn
    -- `x` and not `cs[k]`: with the bound proof inside the term every rewrite below costs four times as much
    obtain ⟨x, hc⟩ : ∃ x, cs[k]? = some x := ⟨_, List.getElem?_eq_getElem (Nat.lt_of_sub_eq_succ hn)⟩
    rw [childrenFrom_cons hc, firstNode]
    by_cases hnode : x.isNode = true
    · rw [if_pos hnode]; exact ⟨hc, hnode, Nat.le_refl _, fun j c h1 h2 => absurd h1 (Nat.not_le_of_lt h2)⟩
    · rw [if_neg hnode]
      have step : ∀ j c, k ≤ j → ¬ k + 1 ≤ j → cs[j]? = some c → c.isNode = false := fun j c h1 h2 h => by
        cases Nat.le_antisymm (Nat.le_of_not_lt h2) h1
        rw [hc] at h; cases h; exact Bool.eq_false_iff.mpr hnode
      have := ih (k + 1) (off + x.len) (by rw [Nat.sub_add_eq, hn]; rfl)
      split at this
      · exact ⟨this.1, this.2.1, Nat.le_of_succ_le this.2.2.1, fun j c h1 h2 h =>
          if h' : k + 1 ≤ j then this.2.2.2 j c h' h2 h else step j c h1 h' h⟩
      · exact fun j c h1 h => if h' : k + 1 ≤ j then this j c h' h else step j c h1 h' h

/-- `first_child` is the first child that is a node: everything before it is a token -/
theorem C03.firstChild_spec (r : Red) (p : Path) (g : Green) (o : Nat)
    (hg : r.green p = some g) (hs : r.start p = some o) :
    (∀ q, (r.firstChild p).1 = some q → ∃ j c, q = p ++ [j] ∧ g.children[j]? = some c ∧ c.isNode = true ∧
        ∀ j' < j, ∀ d, g.children[j']? = some d → d.isNode = false) ∧
    ((r.firstChild p).1 = none → ∀ d ∈ g.children, d.isNode = false) := by
  simp only [Red.firstChild, hg, hs, pick_path]
  have := firstNode_from g.children _ 0 o rfl
  cases hf : firstNode (childrenFrom g.children 0 o) with
  | none =>
    rw [hf] at this
    exact ⟨nofun, fun _ d hd => (List.getElem?_of_mem hd).elim fun j hj => this j d (Nat.zero_le _) hj⟩
  | some e =>
    rw [hf] at this
    exact ⟨fun q hq => ⟨e.2.1, e.1, (Option.some.inj hq).symm, this.1, this.2.1, fun j' h d => this.2.2.2 j' d (Nat.zero_le _) h⟩, nofun⟩


/-! ### what the child iterators yield -/

/-- `SyntaxElementChildren`: yields exactly `len` more items, all children from `index` on, in order -/
theorem C03.collectElems_spec (it : Red.It) (r : Red) (fuel : Nat) (h : it.rest.length < fuel) :
    (Red.collectElems it r fuel).1 = (List.range' it.index it.rest.length).map (fun j => it.parent ++ [j]) := by
  induction fuel generalizing it r with
  | zero => omega
  | succ n ih =>
    simp only [Red.collectElems, Red.It.nextElem]
    cases hr : it.rest with
    | nil => simp
    | cons c rest =>
      simp only
      rw [ih _ _ (by simp [hr] at h ⊢; omega)]
      simp [List.range'_succ]

/-- `SyntaxNodeChildren`: yields exactly the node children from `index` on, in order -/
theorem C03.collectNodes_spec (par : Path) (rest : List Green) : ∀ (idx off : Nat) (r : Red) (fuel : Nat), rest.length < fuel →
    (Red.collectNodes ⟨par, rest, idx, off⟩ r fuel).1 =
      ((rest.zipIdx idx).filter (·.1.isNode)).map (fun cj => par ++ [cj.2]) := by
  induction rest with
  | nil =>
    intro idx off r fuel h
    obtain _ | fuel := fuel
    · cases h
    · rw [Red.collectNodes, Red.It.nextNode]; rfl
  | cons c rest ih =>
    intro idx off r fuel h
    obtain _ | fuel := fuel
    · cases h
    rw [Red.collectNodes, Red.It.nextNode, List.zipIdx_cons, List.filter_cons]
    dsimp only
    cases hn : c.isNode with
    | true =>
      simp only [if_true, List.map_cons]
      exact congrArg _ (ih _ _ _ fuel (Nat.lt_of_succ_lt_succ h))
    | false =>
      -- a token is skipped inside `nextNode`, with the fuel the iterator behind it would be given anyway
      simp only [Bool.false_eq_true, if_false]
      rw [← ih (idx + 1) (off + c.len) r (fuel + 1) (Nat.lt_of_succ_lt h), Red.collectNodes]
      rfl

theorem C03.lenNodes_eq (rest : List Green) (idx : Nat) :
    ((rest.zipIdx idx).filter (·.1.isNode)).length = (rest.filter Green.isNode).length := by
  induction rest generalizing idx with
  | nil => rfl
  | cons c rest ih => rw [List.zipIdx_cons, List.filter_cons, List.filter_cons]; cases c.isNode <;> simp [ih]

end Cst
