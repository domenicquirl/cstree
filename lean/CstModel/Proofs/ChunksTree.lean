/-
  Proofs/ChunksTree — the chunk list the red-level `SyntaxText` computes for a view (walk the sub-tree,
  keep the tokens whose range meets the view's range, cut each) is the pure per-token cut of the node's
  token texts; with `Proofs/Chunks.cut_spec`: its concatenation is the slice of the node's text.
-/
import CstModel.Proofs.Chunks
import CstModel.Proofs.Walk
import CstModel.Props.C11
namespace Cst
open Red

mutual
/-- the token leaves of a sub-tree in source order, with their paths and start offsets -/
def leaves (p : Path) (o : Nat) : Green → List (Path × Nat × Green)
  | .tok id k key l => [(p, o, .tok id k key l)]
  | .node _ _ _ _ cs => leavesL p 0 o cs
def leavesL (p : Path) (i o : Nat) : List Green → List (Path × Nat × Green)
  | [] => []
  | c :: cs => leaves (p ++ [i]) o c ++ leavesL p (i + 1) (o + c.len) cs
end

def tokAt (root : Green) (q : Path) : Bool := Red.isToken ⟨root, []⟩ q

theorem enters_append (a b : List WE) : enters (a ++ b) = enters a ++ enters b := by
  induction a with
  | nil => rfl
  | cons e es ih => cases e <;> simp [enters, ih]

mutual
/-- the tokens among the entered positions of the walk are the leaves, in order -/
theorem enters_pre (root : Green) : (g : Green) → (p : Path) → (o : Nat) → Green.get root p = some g →
    (enters (C03.pre p g)).filter (tokAt root) = (leaves p o g).map (·.1)
  | .tok id k key l, p, o, hg => by
    simp [C03.pre, enters, leaves, tokAt, Red.isToken, Red.green, hg, Green.isNode]
  | .node id k l h cs, p, o, hg => by
    have hk := enters_preL root cs p 0 o (.node id k l h cs) hg (by simp [Green.children])
    simp only [C03.pre, enters, enters_append, List.filter_cons, tokAt, Red.isToken, Red.green, hg, Green.isNode, Bool.not_true,
      Bool.false_eq_true, ↓reduceIte, List.filter_append, List.filter_nil, List.append_nil, leaves]
    exact hk
theorem enters_preL (root : Green) : (cs : List Green) → (p : Path) → (i o : Nat) → (t : Green) →
    Green.get root p = some t → t.children.drop i = cs →
    (enters (C03.preL p i cs)).filter (tokAt root) = (leavesL p i o cs).map (·.1)
  | [], _, _, _, _, _, _ => by simp [C03.preL, enters, leavesL]
  | c :: cs, p, i, o, t, hg, hdrop => by
    obtain ⟨hci, hrest⟩ := drop_eq_cons hdrop
    have hgc : Green.get root (p ++ [i]) = some c := C03.get_child root p t hg i c hci
    simp only [C03.preL, enters_append, List.filter_append, leavesL, List.map_append]
    rw [enters_pre root c (p ++ [i]) o hgc, enters_preL root cs p (i + 1) (o + c.len) t hg hrest]
end

mutual
/-- every leaf is a token of the tree at its path, and its offset is the canonical one -/
theorem leaves_facts (root : Green) : (g : Green) → (p : Path) → (o : Nat) → Green.get root p = some g →
    canon root p = some o → ∀ x ∈ leaves p o g,
      Green.get root x.1 = some x.2.2 ∧ x.2.2.isNode = false ∧ canon root x.1 = some x.2.1
  | .tok id k key l, p, o, hg, hc => by
    intro x hx
    simp only [leaves, List.mem_singleton] at hx
    subst hx
    exact ⟨hg, rfl, hc⟩
  | .node id k l h cs, p, o, hg, hc => by
    intro x hx
    simp only [leaves] at hx
    exact leavesL_facts root cs p 0 o o (.node id k l h cs) hg hc (by simp [Green.children]) (by simp [offsetIn_zero]) x hx
theorem leavesL_facts (root : Green) : (cs : List Green) → (p : Path) → (i o base : Nat) → (t : Green) →
    Green.get root p = some t → canon root p = some base → t.children.drop i = cs →
    o = base + offsetIn t.children i → ∀ x ∈ leavesL p i o cs,
      Green.get root x.1 = some x.2.2 ∧ x.2.2.isNode = false ∧ canon root x.1 = some x.2.1
  | [], _, _, _, _, _, _, _, _, _ => by intro x hx; simp [leavesL] at hx
  | c :: cs, p, i, o, base, t, hg, hc, hdrop, ho => by
    intro x hx
    obtain ⟨hci, hrest⟩ := drop_eq_cons hdrop
    have hgc : Green.get root (p ++ [i]) = some c := C03.get_child root p t hg i c hci
    have hcc : canon root (p ++ [i]) = some o := by
      rw [canon_append_single root p i t c base hg hci hc, ho]
    simp only [leavesL, List.mem_append] at hx
    rcases hx with hx | hx
    · exact leaves_facts root c (p ++ [i]) o hgc hcc x hx
    · exact leavesL_facts root cs p (i + 1) (o + c.len) base t hg hc hrest
        (by rw [offsetIn_succ _ _ _ hci, ho]; omega) x hx
end

/-- consecutive spans from `o` to `e` -/
def Chain : Nat → List (Path × Nat × Green) → Nat → Prop
  | o, [], e => o = e
  | o, x :: xs, e => x.2.1 = o ∧ Chain (o + x.2.2.len) xs e

theorem chain_append {o m e : Nat} {a b : List (Path × Nat × Green)} (h1 : Chain o a m) (h2 : Chain m b e) :
    Chain o (a ++ b) e := by
  induction a generalizing o with
  | nil => simp only [Chain] at h1; subst h1; simpa using h2
  | cons x xs ih => exact ⟨h1.1, ih h1.2⟩

mutual
theorem leaves_chain : (g : Green) → (p : Path) → (o : Nat) → LenOk g → Chain o (leaves p o g) (o + g.len)
  | .tok id k key l, p, o, _ => by simp [leaves, Chain, Green.len]
  | .node id k l h cs, p, o, hl => by
    have hlen : l = sumLen cs := by
      have := LenOk_len hl (by simp [Green.isNode]); simpa [Green.len, Green.children] using this
    have := leavesL_chain cs p 0 o (LenOk_children hl)
    simp only [leaves, Green.len, hlen]
    exact this
theorem leavesL_chain : (cs : List Green) → (p : Path) → (i o : Nat) → LenOkL cs → Chain o (leavesL p i o cs) (o + sumLen cs)
  | [], _, _, _, _ => by simp [leavesL, Chain, sumLen]
  | c :: cs, p, i, o, hl => by
    simp only [LenOkL] at hl
    have h1 := leaves_chain c (p ++ [i]) o hl.1
    have h2 := leavesL_chain cs p (i + 1) (o + c.len) hl.2
    simp only [leavesL, sumLen]
    have e : o + (c.len + sumLen cs) = o + c.len + sumLen cs := by omega
    rw [e]
    exact chain_append h1 h2
end

def leafText (cfg : Cfg) (I : Interner) (x : Path × Nat × Green) : Text := (tokenText cfg I x.2.2).getD []

mutual
/-- the leaves resolve, their texts have the recorded lengths and concatenate to the text of the tree -/
theorem leaves_text (cfg : Cfg) (I : Interner) : (g : Green) → (p : Path) → (o : Nat) → GWf cfg I g →
    (∀ x ∈ leaves p o g, tokenText cfg I x.2.2 = some (leafText cfg I x) ∧ blen (leafText cfg I x) = x.2.2.len) ∧
    ∃ tg, resolveG cfg I g = some tg ∧ ((leaves p o g).map (leafText cfg I)).flatten = tg.text
  | .tok id k key l, p, o, hw => by
    obtain ⟨tg, hr, hlen⟩ := resolve_of_GWf _ hw
    have he := C11.tokenText_eq_resolve cfg I id k key l hw
    rw [hr] at he
    simp only [Option.map_some] at he
    refine ⟨?_, tg, hr, ?_⟩
    · intro x hx
      simp only [leaves, List.mem_singleton] at hx
      subst hx
      simp only [leafText, he, Option.getD_some]
      exact ⟨trivial, by simpa [Green.len] using hlen.symm⟩
    · simp [leaves, leafText, he]
  | .node id k l h cs, p, o, hw => by
    simp only [GWf] at hw
    obtain ⟨h1, ts, hr, hfl⟩ := leavesL_text cfg I cs p 0 o hw.2.2
    refine ⟨by simpa [leaves] using h1, .node k ts, by simp [resolveG, hr], ?_⟩
    simpa [leaves, Tree.text] using hfl
theorem leavesL_text (cfg : Cfg) (I : Interner) : (cs : List Green) → (p : Path) → (i o : Nat) → GWfL cfg I cs →
    (∀ x ∈ leavesL p i o cs, tokenText cfg I x.2.2 = some (leafText cfg I x) ∧ blen (leafText cfg I x) = x.2.2.len) ∧
    ∃ ts, resolveL cfg I cs = some ts ∧ ((leavesL p i o cs).map (leafText cfg I)).flatten = Tree.textL ts
  | [], _, _, _, _ => ⟨by intro x hx; simp [leavesL] at hx, [], by simp [resolveL], by simp [leavesL, Tree.textL]⟩
  | c :: cs, p, i, o, hw => by
    simp only [GWfL] at hw
    obtain ⟨a1, tg, a2, a3⟩ := leaves_text cfg I c (p ++ [i]) o hw.1
    obtain ⟨b1, ts, b2, b3⟩ := leavesL_text cfg I cs p (i + 1) (o + c.len) hw.2
    refine ⟨?_, tg :: ts, by simp [resolveL, a2, b2], ?_⟩
    · intro x hx
      simp only [leavesL, List.mem_append] at hx
      rcases hx with hx | hx
      · exact a1 x hx
      · exact b1 x hx
    · simp [leavesL, Tree.textL, a3, b3]
end

theorem mem_enters {es : List WE} {q : Path} (h : q ∈ enters es) : WE.enter q ∈ es := by
  induction es with
  | nil => simp [enters] at h
  | cons e es ih =>
    cases e with
    | enter p =>
      simp only [enters, List.mem_cons] at h
      rcases h with rfl | h
      · simp
      · exact List.mem_cons_of_mem _ (ih h)
    | leave p =>
      simp only [enters] at h
      exact List.mem_cons_of_mem _ (ih h)

/-- the chunk list the model computes over consecutive leaves with known ranges and texts is the cut of their texts -/
theorem chunks_of_leaves (cfg : Cfg) (I : Interner) (r' : Red) (rg : Nat × Nat) (L : List (Path × Nat × Green)) (o e : Nat)
    (hch : Chain o L e)
    (h : ∀ x ∈ L, r'.range x.1 = some (x.2.1, x.2.1 + x.2.2.len) ∧ r'.green x.1 = some x.2.2)
    (ht : ∀ x ∈ L, tokenText cfg I x.2.2 = some (leafText cfg I x) ∧ blen (leafText cfg I x) = x.2.2.len) :
    ((L.map (·.1)).filterMap (cutOf r' rg)).map (chunkOf cfg I r') = cut rg.1 rg.2 o (L.map (leafText cfg I)) := by
  induction L generalizing o with
  | nil => rfl
  | cons x xs ih =>
    obtain ⟨h1, h2⟩ := h x (List.mem_cons_self)
    obtain ⟨t1, t2⟩ := ht x (List.mem_cons_self)
    obtain ⟨rfl, hrest⟩ := hch
    have ih' := ih _ hrest (fun y hy => h y (List.mem_cons_of_mem _ hy)) (fun y hy => ht y (List.mem_cons_of_mem _ hy))
    simp only [List.map_cons, List.filterMap_cons, cutOf, h1, cut, intersect, t2]
    by_cases hsk : min rg.2 (x.2.1 + x.2.2.len) < max rg.1 x.2.1
    · simp only [hsk, ↓reduceIte, Option.map_none, List.nil_append]
      exact ih'
    · simp only [hsk, ↓reduceIte, Option.map_some, List.map_cons, ih', chunkOf, h2, Option.bind_some, t1,
        List.singleton_append]

/-- the chunk list of a view of a node of a canonical red tree is the per-token cut of the node's token texts -/
theorem chunks_tree_eq (cfg : Cfg) (I : Interner) (r : Red) (hr : RInv r) (hcl : Closed r) (v : View)
    (g : Green) (base : Nat) (hg : r.green v.node = some g) (hs : r.start v.node = some base)
    (hw : GWf cfg I g) :
    ∃ tg ts, resolveG cfg I g = some tg ∧ ts.flatten = tg.text ∧
      (r.chunks cfg I v).1 = cut v.range.1 v.range.2 base ts := by
  obtain ⟨hleaf, tg, hres, hflat⟩ := leaves_text cfg I g v.node base hw
  refine ⟨tg, _, hres, hflat, ?_⟩
  -- the walk
  have hm : Mat r v.node := ⟨base, hs⟩
  have hspec := preorderWithTokens_spec r hcl v.node g hm hg
  have hkeep : RInv (r.preorderWithTokens v.node).2 ∧ (r.preorderWithTokens v.node).2.root = r.root :=
    (preorderWithTokens_ext r v.node).keeps hr
  have hallmat := fun e he => ((walk_sim v.node (Red.walkFuel r v.node) r hcl (.enter v.node) (range_of_mat hm hg)).2 e he).mat
  have hgr : Green.get r.root v.node = some g := hg
  have hcan : canon r.root v.node = some base := hr.canon.start hs
  have hfacts := leaves_facts r.root g v.node base hgr hcan
  -- unfold the model
  simp only [Red.chunks, Red.tokensWithRanges, Red.descendantsWithTokens]
  have hes : (r.preorderWithTokens v.node).1 = C03.pre v.node g := hspec.1
  have hroot := hkeep.2
  have htoks : (enters (r.preorderWithTokens v.node).1).filter (r.preorderWithTokens v.node).2.isToken =
      (leaves v.node base g).map (·.1) := by
    rw [hes, ← enters_pre r.root g v.node base hgr]
    apply List.filter_congr
    intro q _
    unfold tokAt Red.isToken Red.green
    rw [hroot]
  rw [htoks]
  have hranges : ∀ y ∈ leaves v.node base g,
      (r.preorderWithTokens v.node).2.range y.1 = some (y.2.1, y.2.1 + y.2.2.len) ∧
      (r.preorderWithTokens v.node).2.green y.1 = some y.2.2 := by
    intro y hy
    obtain ⟨f1, f2, f3⟩ := hfacts y hy
    have hgy : (r.preorderWithTokens v.node).2.green y.1 = some y.2.2 := by
      unfold Red.green; rw [hroot]; exact f1
    have hin : y.1 ∈ enters (C03.pre v.node g) := by
      have : y.1 ∈ (leaves v.node base g).map (·.1) := List.mem_map_of_mem hy
      rw [← enters_pre r.root g v.node base hgr] at this
      exact (List.mem_filter.mp this).1
    have hmat : Mat (r.preorderWithTokens v.node).2 y.1 := by
      have := hallmat (.enter y.1) (by
        have h1 : WE.enter y.1 ∈ C03.pre v.node g := mem_enters hin
        rw [← hes] at h1
        exact h1)
      exact this
    obtain ⟨o, ho⟩ := hmat
    have hco := hkeep.1.canon.start ho
    rw [hroot, f3] at hco
    cases hco
    exact ⟨by simp [Red.range, ho, hgy], hgy⟩
  exact chunks_of_leaves cfg I _ v.range (leaves v.node base g) base (base + g.len)
    (leaves_chain g v.node base (LenOk_get hr.lens hgr)) hranges hleaf

/-- **the chunks of a view are the slice of the node's text, and only then**: on a canonical red tree, for a view
    that ends inside the node's text, reading the chunks as a whole is `&text[a..b]` of the node's text — the same text
    when the slice exists, a panic when it does not -/
theorem chunks_tree_slice (cfg : Cfg) (I : Interner) (r : Red) (hr : RInv r) (hcl : Closed r) (v : View)
    (g : Green) (base : Nat) (hg : r.green v.node = some g) (hs : r.start v.node = some base)
    (hw : GWf cfg I g) (hab : v.range.1 ≤ v.range.2) :
    ∃ tg, resolveG cfg I g = some tg ∧ (v.range.2 ≤ base + blen tg.text →
      chunksConcat (r.chunks cfg I v).1 = sliceBytes tg.text (v.range.1 - base) (v.range.2 - base)) := by
  obtain ⟨tg, ts, hres, hflat, heq⟩ := chunks_tree_eq cfg I r hr hcl v g base hg hs hw
  exact ⟨tg, hres, fun hin => by rw [heq, ← hflat] at *; exact chunksConcat_cut _ _ hab ts base hin⟩

/-- **the chunks of a view are the slice of the node's text**: on a canonical red tree, for any view of a
    node whose slice of the node's text exists (`&text[a..b]` does not panic), the concatenation of the
    chunks the view's queries run over is exactly that slice -/
theorem chunks_tree (cfg : Cfg) (I : Interner) (r : Red) (hr : RInv r) (hcl : Closed r) (v : View)
    (g : Green) (base : Nat) (hg : r.green v.node = some g) (hs : r.start v.node = some base)
    (hw : GWf cfg I g) (hab : v.range.1 ≤ v.range.2) (x : Text) :
    ∃ tg, resolveG cfg I g = some tg ∧
      (sliceBytes tg.text (v.range.1 - base) (v.range.2 - base) = some x →
        chunksConcat (r.chunks cfg I v).1 = some x) := by
  obtain ⟨tg, hres, h⟩ := chunks_tree_slice cfg I r hr hcl v g base hg hs hw hab
  refine ⟨tg, hres, fun hslice => ?_⟩
  rw [h, hslice]
  have := sliceBytes_le_blen hslice
  omega

/-- **and only then**: for a view inside the node's range, if the whole-text query over the chunks succeeds, the slice of
    the node's text exists and is the result; so a view cut inside a character (the slice would panic) makes `to_string`
    and every query that reaches the cut panic -/
theorem chunks_tree_conv (cfg : Cfg) (I : Interner) (r : Red) (hr : RInv r) (hcl : Closed r) (v : View)
    (g : Green) (base : Nat) (hg : r.green v.node = some g) (hs : r.start v.node = some base)
    (hw : GWf cfg I g) (hab : v.range.1 ≤ v.range.2) :
    ∃ tg, resolveG cfg I g = some tg ∧
      (v.range.2 ≤ base + blen tg.text → ∀ x, chunksConcat (r.chunks cfg I v).1 = some x →
        sliceBytes tg.text (v.range.1 - base) (v.range.2 - base) = some x) := by
  obtain ⟨tg, hres, h⟩ := chunks_tree_slice cfg I r hr hcl v g base hg hs hw hab
  exact ⟨tg, hres, fun hin x hc => h hin ▸ hc⟩

/-- a view whose slice of the node's text does not exist (an end inside a character) panics when read as a whole -/
theorem chunks_tree_panics (cfg : Cfg) (I : Interner) (r : Red) (hr : RInv r) (hcl : Closed r) (v : View)
    (g : Green) (base : Nat) (hg : r.green v.node = some g) (hs : r.start v.node = some base)
    (hw : GWf cfg I g) (hab : v.range.1 ≤ v.range.2) :
    ∃ tg, resolveG cfg I g = some tg ∧
      (v.range.2 ≤ base + blen tg.text → sliceBytes tg.text (v.range.1 - base) (v.range.2 - base) = none →
        chunksConcat (r.chunks cfg I v).1 = none) := by
  obtain ⟨tg, hres, h⟩ := chunks_tree_slice cfg I r hr hcl v g base hg hs hw hab
  exact ⟨tg, hres, fun hin hnone => h hin ▸ hnone⟩

end Cst
