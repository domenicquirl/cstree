/-
  Proofs/Preorder — the pure side of C03's preorder claim: the successor function of the walk on paths, and that its
  fuelled iteration from `enter p` emits the recursive preorder of the sub-tree at `p`.
-/
import CstModel.Proofs.Nav
namespace Cst.C03

open Red

/-! Pure version of `preorder_with_tokens` on paths: the successor function looks only at arities.
    `walkNextT` computes this successor through `first_child_or_token` / `next_sibling_or_token`
    (`firstChildOrToken_spec`, `nextSiblingOrToken_spec`). -/

def arity (g : Green) (p : Path) : Nat :=
  match Green.get g p with
  | some t => t.children.length
  | none => 0

def next (g : Green) (start : Path) : WE → Option WE
  | .enter p => if 0 < arity g p then some (.enter (p ++ [0])) else some (.leave p)
  | .leave p =>
    if p = start then none else
    match p.getLast? with
    | none => none
    | some i =>
      let q := p.dropLast
      if i + 1 < arity g q then some (.enter (q ++ [i + 1])) else some (.leave q)

def walkN (g : Green) (start : Path) : Nat → WE → List WE
  | 0, _ => []
  | n + 1, e => e :: match next g start e with
    | none => []
    | some e' => walkN g start n e'

mutual
/-- the recursive preorder: enter, the children's walks in order, leave -/
def pre (p : Path) : Green → List WE
  | .tok .. => [.enter p, .leave p]
  | .node _ _ _ _ cs => .enter p :: (preL p 0 cs ++ [.leave p])
def preL (p : Path) (i : Nat) : List Green → List WE
  | [] => []
  | c :: cs => pre (p ++ [i]) c ++ preL p (i + 1) cs
end

def cont (g : Green) (start : Path) (n : Nat) (p : Path) : List WE :=
  match next g start (.leave p) with
  | none => []
  | some e' => walkN g start n e'

theorem next_leave_child (g : Green) (start p : Path) (i : Nat) (hlen : start.length ≤ p.length) :
    next g start (.leave (p ++ [i])) =
      if i + 1 < arity g p then some (.enter (p ++ [i + 1])) else some (.leave p) := by
  have hne : p ++ [i] ≠ start := by
    intro h; have := congrArg List.length h; simp at this; omega
  simp [next, hne]

/-! Fuel is dealt with once, for any successor function: a list that *is* a stretch of the orbit is what the fuelled
    walk emits.  The tree inductions below then only show that `pre` / `preL` are such stretches. -/

/-- from state `s` (the element to emit next, if any) the orbit of `f` emits `l` and arrives in state `c` -/
def Stretch {α : Type} (f : α → Option α) : Option α → List α → Option α → Prop
  | s, [], c => s = c
  | s, x :: xs, c => s = some x ∧ Stretch f (f x) xs c

theorem Stretch.append {α : Type} {f : α → Option α} {a b : List α} {s m c : Option α}
    (h1 : Stretch f s a m) (h2 : Stretch f m b c) : Stretch f s (a ++ b) c := by
  induction a generalizing s with
  | nil => cases h1; exact h2
  | cons x xs ih => exact ⟨h1.1, ih h1.2⟩

/-- a fuelled walk `w` along `f` emits any stretch it has the fuel for, and goes on from where the stretch ends -/
theorem walk_of_stretch {α : Type} {f : α → Option α} {w : Nat → α → List α}
    (hw : ∀ n e, w (n + 1) e = e :: (f e).elim [] (w n)) (n : Nat) :
    ∀ (l : List α) (s c : Option α), Stretch f s l c → s.elim [] (w (n + l.length)) = l ++ c.elim [] (w n)
  | [], s, c, h => by cases h; rfl
  | x :: l, s, c, h => by
    cases h.1
    rw [Option.elim_some, List.length_cons, ← Nat.add_assoc, hw, walk_of_stretch hw n l (f x) c h.2]; rfl

theorem walkN_succ (g : Green) (start : Path) (n : Nat) (e : WE) :
    walkN g start (n + 1) e = e :: (next g start e).elim [] (walkN g start n) := by
  rw [walkN]; cases next g start e <;> rfl

theorem cont_eq (g : Green) (start : Path) (n : Nat) (p : Path) :
    cont g start n p = (next g start (.leave p)).elim [] (walkN g start n) := by
  rw [cont]; cases next g start (.leave p) <;> rfl

/-- where the with-tokens walk stands before child `i` of `p`: about to enter it, or to leave `p` -/
def before (g : Green) (p : Path) (i : Nat) : Option WE :=
  if i < arity g p then some (.enter (p ++ [i])) else some (.leave p)

mutual
theorem stretch_pre (g : Green) (start : Path) (p : Path) (hlen : start.length ≤ p.length) :
    (t : Green) → Green.get g p = some t →
    Stretch (next g start) (some (.enter p)) (pre p t) (next g start (.leave p))
  | .tok .., hg => ⟨rfl, by simp [next, arity, hg, Green.children], rfl⟩
  | .node _ _ _ _ cs, hg =>
    ⟨rfl, show Stretch _ (before g p 0) _ _ from
      (stretch_preL g start p hlen _ hg cs 0 rfl).append (b := [.leave p]) ⟨rfl, rfl⟩⟩
theorem stretch_preL (g : Green) (start : Path) (p : Path) (hlen : start.length ≤ p.length)
    (t : Green) (hg : Green.get g p = some t) : (cs : List Green) → (i : Nat) → t.children.drop i = cs →
    Stretch (next g start) (before g p i) (preL p i cs) (some (.leave p))
  | [], i, hcs => by
    have : ¬ i < arity g p := by rw [arity, hg]; exact Nat.not_lt_of_le (List.drop_eq_nil_iff.mp hcs)
    exact if_neg this
  | c :: cs, i, hcs => by
    have hc : t.children[i]? = some c := by rw [← List.head?_drop, hcs]; rfl
    have hi : i < arity g p := by rw [arity, hg]; exact (List.getElem?_eq_some_iff.mp hc).1
    have h1 := stretch_pre g start (p ++ [i]) (by simp; omega) c (get_child g p t hg i c hc)
    rw [next_leave_child g start p i hlen] at h1
    rw [before, if_pos hi]
    exact h1.append (stretch_preL g start p hlen t hg cs (i + 1) (by rw [← List.tail_drop, hcs]; rfl))
end

theorem walk_pre (g : Green) (start : Path) (p : Path) (t : Green) (hg : Green.get g p = some t)
    (hlen : start.length ≤ p.length) (n : Nat) :
    walkN g start (n + (pre p t).length) (.enter p) = pre p t ++ cont g start n p :=
  cont_eq g start n p ▸ walk_of_stretch (walkN_succ g start) n _ _ _ (stretch_pre g start p hlen t hg)

theorem walk_preL (g : Green) (start : Path) (p : Path) (t : Green)
    (hg : Green.get g p = some t) (hlen : start.length ≤ p.length)
    (i : Nat) (cs : List Green) (hcs : t.children.drop i = cs) (hne : cs ≠ []) (n : Nat) :
    walkN g start (n + (preL p i cs).length) (.enter (p ++ [i])) =
      preL p i cs ++ walkN g start n (.leave p) := by
  have hi : i < arity g p := by
    rw [arity, hg]
    exact Nat.lt_of_not_le fun h => hne (hcs ▸ List.drop_eq_nil_of_le h)
  have := stretch_preL g start p hlen t hg cs i hcs
  rw [before, if_pos hi] at this
  exact walk_of_stretch (walkN_succ g start) n _ _ _ this

/-- **a preorder walk emits properly nested enter/leave events visiting every element once**: the
    successor-function walk from `start` is exactly the recursive preorder of the sub-tree -/
theorem preorder_spec (g : Green) (start : Path) (t : Green) (hg : Green.get g start = some t) (n : Nat) :
    walkN g start (n + (pre start t).length) (.enter start) = pre start t := by
  have := walk_pre g start start t hg (Nat.le_refl _) n
  simpa [cont, next] using this

/-! ### non-vacuity -/
example :
    let g : Green := .node 0 0 2 0 [.node 1 1 0 0 [], .tok 2 10 none 1, .node 3 1 1 0 [.tok 4 10 none 1]]
    walkN g [] 20 (.enter []) =
      [.enter [], .enter [0], .leave [0], .enter [1], .leave [1], .enter [2], .enter [2, 0], .leave [2, 0], .leave [2], .leave []] := by
  decide +kernel

end Cst.C03
