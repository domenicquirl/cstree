/-
  Proofs/MemSlots — the invariant behind data-race freedom of the red tree's slots and teardown.
-/
import CstModel.Model.MemSlots
import CstModel.Proofs.MemModel
namespace Cst.MemS
open Cst.Mem

def Holds (s : Sys) (a : SAcc) : Prop :=
  a.ep ≤ s.L a.thr ∨ ∃ (j n : Nat), s.owned[j]? = some n ∧ 1 ≤ n ∧ (j = a.thr ∨ a.ep ≤ s.C j a.thr)

structure Inv (s : Sys) : Prop where
  rcEq : s.torn = false → s.rc = (s.owned.sum : Int)
  epOwn : ∀ a ∈ s.acc, a.ep ≤ s.C a.thr a.thr
  cover : s.torn = false → ∀ a ∈ s.acc, Holds s a
  tornDone : s.torn = true → ∀ n ∈ s.owned, n = 0
  noRace : s.raced = false
  /-- every access to a still empty slot happened under its lock and was released into the lock's clock -/
  lockCov : s.torn = false → ∀ a ∈ s.acc, s.slots[a.loc]? = some false → a.ep ≤ s.K a.loc a.thr
  /-- so was the write that filled a slot -/
  wrCov : s.torn = false → ∀ a ∈ s.acc, a.wr = true → a.ep ≤ s.K a.loc a.thr
  /-- a thread that holds a reference into a slot has synchronised with the write that filled it -/
  known : s.torn = false → ∀ (t sl : Nat), sl ∈ s.knows t →
    s.slots[sl]? = some true ∧ ∀ a ∈ s.acc, a.loc = sl → a.wr = true → a.thr = t ∨ a.ep ≤ s.C t a.thr

theorem inv_init (l : List Nat) (n : Nat) : Inv (Sys.init l n) := by
  refine ⟨fun _ => rfl, ?_, ?_, ?_, rfl, ?_, ?_, ?_⟩
  · intro a h; simp [Sys.init] at h
  · intro _ a h; simp [Sys.init] at h
  · intro h; simp [Sys.init] at h
  · intro _ a h; simp [Sys.init] at h
  · intro _ a h; simp [Sys.init] at h
  · intro _ t sl h; simp [Sys.init] at h

@[simp] theorem rmw_owned (s : Sys) (t : Nat) (rel acq : Bool) : (rmw s t rel acq).owned = s.owned := rfl
@[simp] theorem rmw_acc (s : Sys) (t : Nat) (rel acq : Bool) : (rmw s t rel acq).acc = s.acc := rfl
@[simp] theorem rmw_rc (s : Sys) (t : Nat) (rel acq : Bool) : (rmw s t rel acq).rc = s.rc := rfl
@[simp] theorem rmw_torn (s : Sys) (t : Nat) (rel acq : Bool) : (rmw s t rel acq).torn = s.torn := rfl
@[simp] theorem rmw_raced (s : Sys) (t : Nat) (rel acq : Bool) : (rmw s t rel acq).raced = s.raced := rfl
@[simp] theorem rmw_K (s : Sys) (t : Nat) (rel acq : Bool) : (rmw s t rel acq).K = s.K := rfl
@[simp] theorem rmw_slots (s : Sys) (t : Nat) (rel acq : Bool) : (rmw s t rel acq).slots = s.slots := rfl
@[simp] theorem rmw_knows (s : Sys) (t : Nat) (rel acq : Bool) : (rmw s t rel acq).knows = s.knows := rfl

/-! ### the counter part: `Model/MemModel` -/

/-- the counter part of the state: a state of `Model/MemModel`, and the counter's actions do to it what they do there
    (by `rfl`), so that `Mem.inv_clone`, `inv_send`, `inv_drop`, `inv_spawn` apply as they are -/
def Sys.core (s : Sys) : Mem.Sys := ⟨s.rc, s.owned, s.C, s.L, s.acc.map (fun a => ⟨a.thr, a.ep⟩), s.torn, s.raced⟩

/-- `(rmw s t rel acq).core` is `Mem.rmw s.core t rel acq` by `rfl`: the lemmas about `Mem.rmw` apply as they are -/
theorem rmw_C_mono (s : Sys) (t : Nat) (rel acq : Bool) (j i : Nat) : s.C j i ≤ (rmw s t rel acq).C j i :=
  Mem.rmw_C_mono s.core t rel acq j i

/-- what the invariant says about the slots, beyond `Mem.Inv` of the counter part -/
structure SlotInv (s : Sys) : Prop where
  lockCov : s.torn = false → ∀ a ∈ s.acc, s.slots[a.loc]? = some false → a.ep ≤ s.K a.loc a.thr
  wrCov : s.torn = false → ∀ a ∈ s.acc, a.wr = true → a.ep ≤ s.K a.loc a.thr
  known : s.torn = false → ∀ (t sl : Nat), sl ∈ s.knows t →
    s.slots[sl]? = some true ∧ ∀ a ∈ s.acc, a.loc = sl → a.wr = true → a.thr = t ∨ a.ep ≤ s.C t a.thr

theorem Inv.slot {s : Sys} (h : Inv s) : SlotInv s := ⟨h.lockCov, h.wrCov, h.known⟩

theorem Inv.core {s : Sys} (h : Inv s) : Mem.Inv s.core := by
  refine ⟨h.rcEq, fun a ha => ?_, fun ht a ha => ?_, h.tornDone, h.noRace⟩
  · obtain ⟨b, hb, rfl⟩ := List.mem_map.mp ha; exact h.epOwn b hb
  · obtain ⟨b, hb, rfl⟩ := List.mem_map.mp ha; exact h.cover ht b hb

theorem Inv.of {s : Sys} (hc : Mem.Inv s.core) (hs : SlotInv s) : Inv s :=
  ⟨hc.rcEq, fun a ha => hc.epOwn _ (List.mem_map_of_mem ha), fun ht a ha => hc.cover ht _ (List.mem_map_of_mem ha),
   hc.tornDone, hc.noRace, hs.lockCov, hs.wrCov, hs.known⟩

/-- the slot part looks at the thread clocks only from below -/
theorem SlotInv.mono {s s' : Sys} (h : SlotInv s) (hC : ∀ j i, s.C j i ≤ s'.C j i)
    (hacc : s'.acc = s.acc) (hK : s'.K = s.K) (hsl : s'.slots = s.slots) (hkn : s'.knows = s.knows)
    (htorn : s'.torn = s.torn) : SlotInv s' := by
  refine ⟨?_, ?_, ?_⟩
  · rw [htorn, hacc, hK, hsl]; exact h.lockCov
  · rw [htorn, hacc, hK]; exact h.wrCov
  · rw [htorn, hacc, hsl, hkn]
    intro ht t sl hk
    obtain ⟨h1, h2⟩ := h.known ht t sl hk
    exact ⟨h1, fun a ha hl hw => (h2 a ha hl hw).imp_right (fun h3 => Nat.le_trans h3 (hC _ _))⟩

theorem updK_self (K : Nat → VC) (sl : Nat) (c : VC) : updK K sl c sl = c := if_pos rfl
theorem updK_ne (K : Nat → VC) (sl : Nat) (c : VC) {l : Nat} (h : l ≠ sl) : updK K sl c l = K l := if_neg h

/-- no race with `a`: another location, two reads, the same thread, or ordered before -/
theorem racesWith_false {c : VC} {t loc : Nat} {wr : Bool} {a : SAcc}
    (h : a.loc = loc → (a.wr = true ∨ wr = true) → a.thr = t ∨ a.ep ≤ c a.thr) : racesWith c t loc wr a = false := by
  cases hr : racesWith c t loc wr a with
  | false => rfl
  | true =>
    simp only [racesWith, Bool.and_eq_true, beq_iff_eq, Bool.or_eq_true, bne_iff_ne, ne_eq, Bool.not_eq_true',
      decide_eq_false_iff_not] at hr
    obtain ⟨⟨⟨hl, hw⟩, hne⟩, hlt⟩ := hr
    exact ((h hl hw).elim hne hlt).elim

/-! ### a critical section on a slot

  `locked s t sl wr fill learn` is the section proper (`fill = learn = false`: clocks, the access and its race check),
  then the slot is filled, then the thread learns the slot; each of the three keeps the invariant for a reason of
  its own. -/

/-- the section proper: what conflicts with the access was released into the lock's clock, which the section acquires -/
theorem inv_section {s : Sys} (h : Inv s) (ht : s.torn = false) (t n sl : Nat) (wr b : Bool)
    (hn : s.owned[t]? = some n) (h1 : 1 ≤ n) (hb : s.slots[sl]? = some b) (hwr : wr = true → b = false) :
    Inv (locked s t sl wr false false) := by
  have hC : ∀ j i, s.C j i ≤ updC s.C t (tick (join (s.C t) (s.K sl)) t) j i := by
    intro j i
    by_cases hj : j = t
    · subst hj; rw [updC_self]; exact Nat.le_trans (le_join_left _ _ _) (le_tick _ _ _)
    · rw [updC_ne _ _ _ hj]; exact Nat.le_refl _
  have hCt : ∀ i, join (s.C t) (s.K sl) i ≤ updC s.C t (tick (join (s.C t) (s.K sl)) t) t i :=
    fun i => by rw [updC_self]; exact le_tick _ _ _
  have hK : ∀ l i, s.K l i ≤ updK s.K sl (join (s.K sl) (join (s.C t) (s.K sl))) l i := by
    intro l i
    by_cases hl : l = sl
    · subst hl; rw [updK_self]; exact le_join_left _ _ _
    · rw [updK_ne _ _ _ hl]; exact Nat.le_refl _
  have hKsl : ∀ i, join (s.C t) (s.K sl) i ≤ updK s.K sl (join (s.K sl) (join (s.C t) (s.K sl))) sl i :=
    fun i => by rw [updK_self]; exact le_join_right _ _ _
  have hraced : (s.raced || s.acc.any (racesWith (join (s.C t) (s.K sl)) t sl wr)) = false := by
    rw [h.noRace, Bool.false_or, List.any_eq_false]
    intro a ha
    rw [racesWith_false]; exact nofun
    intro hl hw
    -- a write finds the slot empty: every access to it is covered; a read conflicts with writes only
    have hle : a.ep ≤ s.K a.loc a.thr := by
      cases wr with
      | true => exact h.lockCov ht a ha (by rw [hl, hb, hwr rfl])
      | false => exact h.wrCov ht a ha (hw.resolve_right nofun)
    exact Or.inr (Nat.le_trans (hl ▸ hle) (le_join_right _ _ _))
  refine .of (inv_alive h.core ht rfl (h.rcEq ht) hraced (fun _ => Nat.le_refl _) hC
    (fun j m hj hm => kept_self hj hm (hC j)) (fun a ha => ?_)) ⟨fun _ a ha he => ?_, fun _ a ha hw => ?_, fun _ t' sl' hk => ?_⟩
  · rcases List.mem_cons.mp ha with rfl | ha
    · exact Or.inr ⟨hCt t, n, hn, h1⟩
    · exact Or.inl ha
  · rcases List.mem_cons.mp ha with rfl | ha
    · exact hKsl t
    · exact Nat.le_trans (h.lockCov ht a ha he) (hK _ _)
  · rcases List.mem_cons.mp ha with rfl | ha
    · exact hKsl t
    · exact Nat.le_trans (h.wrCov ht a ha hw) (hK _ _)
  · obtain ⟨k1, k2⟩ := h.known ht t' sl' hk
    refine ⟨k1, fun a ha hl hw => ?_⟩
    rcases List.mem_cons.mp ha with rfl | ha
    · -- a write to a slot somebody knows: impossible, writes go to empty slots
      rw [← show sl = sl' from hl, hb, hwr hw] at k1; cases k1
    · exact (k2 a ha hl hw).imp_right (fun k3 => Nat.le_trans k3 (hC _ _))

/-- filling a slot: the invariant only asks more of empty slots -/
theorem inv_fill {s : Sys} (h : Inv s) (sl : Nat) : Inv { s with slots := s.slots.set sl true } := by
  have hempty : ∀ j, (s.slots.set sl true)[j]? = some false → s.slots[j]? = some false := fun j hj => by
    rcases getElem?_set_cases _ _ _ _ _ hj with ⟨_, e⟩ | ⟨_, e⟩
    · cases e
    · exact e
  have hfull : ∀ j, s.slots[j]? = some true → (s.slots.set sl true)[j]? = some true := fun j hj => by
    by_cases hjs : j = sl
    · subst hjs; exact getElem?_set_self_some _ _ _ _ hj
    · exact getElem?_set_other hj hjs
  exact .of h.core ⟨fun ht a ha he => h.lockCov ht a ha (hempty _ he), h.wrCov,
    fun ht t sl' hk => (h.known ht t sl' hk).imp (hfull _) id⟩

/-- a thread whose clock has absorbed the lock's learns a filled slot: the write that filled it is in the lock's clock -/
theorem inv_learn {s : Sys} (h : Inv s) (t sl : Nat) (hsl : s.slots[sl]? = some true) (hK : ∀ i, s.K sl i ≤ s.C t i) :
    Inv { s with knows := updKnows s.knows t (sl :: s.knows t) } := by
  refine .of h.core ⟨h.lockCov, h.wrCov, fun ht t' sl' hk => ?_⟩
  have hk : sl' ∈ if t' = t then sl :: s.knows t else s.knows t' := hk
  by_cases htt : t' = t
  · subst htt
    rw [if_pos rfl] at hk
    rcases List.mem_cons.mp hk with rfl | hk
    · exact ⟨hsl, fun a ha hl hw => Or.inr (Nat.le_trans (hl ▸ h.wrCov ht a ha hw) (hK _))⟩
    · exact h.known ht t' sl' hk
  · rw [if_neg htt] at hk
    exact h.known ht t' sl' hk

/-- a critical section on a slot keeps the invariant -/
theorem inv_locked {s : Sys} (h : Inv s) (ht : s.torn = false) (t n sl : Nat) (wr fill learn b : Bool)
    (hn : s.owned[t]? = some n) (h1 : 1 ≤ n) (hb : s.slots[sl]? = some b)
    (hwr : wr = true → b = false) (hfill : fill = true → wr = true)
    (hlearn : learn = true → (b = true ∨ fill = true)) : Inv (locked s t sl wr fill learn) := by
  have sec := inv_section h ht t n sl wr b hn h1 hb hwr
  -- on leaving, the lock's clock is below the thread's
  have hK : ∀ i, (locked s t sl wr false false).K sl i ≤ (locked s t sl wr false false).C t i := fun i => by
    show updK _ _ _ sl i ≤ updC _ _ _ t i
    rw [updK_self, updC_self]
    exact Nat.le_trans (Nat.max_le.mpr ⟨le_join_right _ _ _, Nat.le_refl _⟩) (le_tick _ _ _)
  cases fill <;> cases learn
  · exact sec
  · exact inv_learn sec t sl ((hlearn rfl).elim (· ▸ hb) nofun) hK
  · exact inv_fill sec sl
  · exact inv_learn (inv_fill sec sl) t sl (getElem?_set_self_some _ _ _ _ hb) hK

theorem inv_step {O : Ords} (hrel : O.decRel = true) (hacq : O.decAcq = true) {s s' : Sys} (h : Inv s)
    (t : Nat) (a : Act) (hs : step O s t a = some s') : Inv s' := by
  unfold step at hs
  split at hs
  · cases hs
  rename_i n hn
  have htf : 1 ≤ n → s.torn = false := alive_of_holds h.core hn
  have lockedStep : ∀ {sl wr fill learn b}, (if n ≥ 1 then some (locked s t sl wr fill learn) else none) = some s' →
      s.slots[sl]? = some b → (wr = true → b = false) → (fill = true → wr = true) →
      (learn = true → (b = true ∨ fill = true)) → Inv s' := by
    intro sl wr fill learn b hs hb h2 h3 h4
    obtain ⟨h1, hs⟩ := Option.ite_none_right_eq_some.mp hs
    cases hs
    exact inv_locked h (htf h1) t n sl wr fill learn b hn h1 hb h2 h3 h4
  split at hs
  · cases hs
    exact .of (Mem.inv_spawn h.core) ⟨h.lockCov, h.wrCov, h.known⟩
  · obtain ⟨h1, hs⟩ := Option.ite_none_right_eq_some.mp hs
    cases hs
    exact .of (Mem.inv_clone h.core hn h1 _ _) (h.slot.mono (rmw_C_mono _ _ _ _) rfl rfl rfl rfl rfl)
  · rename_i j
    obtain ⟨⟨h1, hjt⟩, hs⟩ := Option.ite_none_right_eq_some.mp hs
    split at hs <;> cases hs
    rename_i m hm
    have ht := htf h1
    refine .of (Mem.inv_send h.core hn h1 hjt hm) ⟨h.lockCov, h.wrCov, fun _ t' sl hk => ?_⟩
    have keep : sl ∈ s.knows t' → s.slots[sl]? = some true ∧
        ∀ a ∈ s.acc, a.loc = sl → a.wr = true → a.thr = t' ∨ a.ep ≤ sendC s.C t j t' a.thr := fun hk => by
      obtain ⟨k1, k2⟩ := h.known ht t' sl hk
      exact ⟨k1, fun a ha hl hw => (k2 a ha hl hw).imp_right (fun k3 => Nat.le_trans k3 (sendC_mono _ _ _ _ _))⟩
    simp only [updKnows] at hk
    split at hk
    · subst t'
      rcases List.mem_append.mp hk with hk | hk
      · -- learnt from the sender: the receiver's clock absorbs the sender's
        obtain ⟨k1, k2⟩ := h.known ht t sl hk
        refine ⟨k1, fun a ha hl hw => Or.inr ?_⟩
        have : a.ep ≤ s.C t a.thr := by
          rcases k2 a ha hl hw with k3 | k3
          · exact k3 ▸ h.epOwn a ha
          · exact k3
        exact Nat.le_trans this (sendC_recv s.C hjt _)
      · exact keep hk
    · exact keep hk
  -- the five critical sections; `‹_›` is what the `split` says of the slot
  · split at hs
    · exact lockedStep hs ‹_› nofun nofun (fun hl => Or.inl hl)
    · cases hs
  · split at hs
    · exact lockedStep hs ‹_› (fun _ => rfl) (fun _ => rfl) (fun _ => Or.inr rfl)
    · cases hs
  · split at hs
    · exact lockedStep hs ‹_› nofun nofun (fun _ => Or.inl rfl)
    · cases hs
  · split at hs
    · exact lockedStep hs ‹_› nofun nofun nofun
    · cases hs
  · split at hs
    · exact lockedStep hs ‹_› (fun _ => rfl) nofun nofun
    · cases hs
  · rename_i sl
    obtain ⟨⟨h1, hk⟩, hs⟩ := Option.ite_none_right_eq_some.mp hs
    cases hs
    have ht := htf h1
    obtain ⟨k1, k2⟩ := h.known ht t sl (List.contains_iff_mem.mp hk)
    have hraced : (s.raced || s.acc.any (racesWith (s.C t) t sl false)) = false := by
      rw [h.noRace, Bool.false_or, List.any_eq_false]
      intro a ha
      rw [racesWith_false]; exact nofun
      exact fun hl hw => k2 a ha hl (hw.resolve_right nofun)
    refine .of (inv_alive h.core ht rfl (h.rcEq ht) hraced (fun _ => Nat.le_refl _) (fun _ _ => Nat.le_refl _)
      (fun j m hj hm => kept_self hj hm (fun _ => Nat.le_refl _)) (fun a ha => ?_)) ⟨fun _ a ha he => ?_, fun _ a ha hw => ?_, fun _ t' sl' hk' => ?_⟩
    · rcases List.mem_cons.mp ha with rfl | ha
      · exact Or.inr ⟨Nat.le_refl _, n, hn, h1⟩
      · exact Or.inl ha
    · rcases List.mem_cons.mp ha with rfl | ha
      · rw [show s.slots[sl]? = some true from k1] at he; cases he
      · exact h.lockCov ht a ha he
    · rcases List.mem_cons.mp ha with rfl | ha
      · cases hw
      · exact h.wrCov ht a ha hw
    · obtain ⟨q1, q2⟩ := h.known ht t' sl' hk'
      refine ⟨q1, fun a ha hl hw => ?_⟩
      rcases List.mem_cons.mp ha with rfl | ha
      · cases hw
      · exact q2 a ha hl hw
  · obtain ⟨h1, hs⟩ := Option.ite_none_right_eq_some.mp hs
    have ht := htf h1
    split at hs <;> cases hs
    · -- the last handle: teardown
      rename_i hrc
      refine ⟨fun h' => (nomatch h'), fun a ha => ?_, fun h' => (nomatch h'), fun _ => (sole_holder h.core ht hn h1 hrc).2, ?_,
        fun h' => (nomatch h'), fun h' => (nomatch h'), fun h' => (nomatch h')⟩
      · rcases List.mem_append.mp ha with ha | ha
        · obtain ⟨sl, _, rfl⟩ := List.mem_map.mp ha; exact Nat.le_refl _
        · exact Nat.le_trans (h.epOwn a ha) (rmw_C_mono _ _ _ _ _ _)
      · have hord := sole_holder_ordered h.core ht hn h1 hrc _ (Mem.rmw_C_mono _ t O.decRel O.decAcq t)
          (hacq ▸ Mem.rmw_acquire { s.core with rc := s.rc - 1, owned := s.owned.set t (n - 1) } t O.decRel)
        show (s.raced || s.acc.any _) = false
        rw [h.noRace, Bool.false_or, List.any_eq_false]
        intro a ha
        simp only [Bool.and_eq_true, bne_iff_ne, ne_eq, Bool.not_eq_true', decide_eq_false_iff_not, not_and, Decidable.not_not]
        exact (hord _ (List.mem_map_of_mem ha)).resolve_left
    · exact .of (hrel ▸ Mem.inv_drop h.core hn h1 _) (h.slot.mono (rmw_C_mono _ _ _ _) rfl rfl rfl rfl rfl)


theorem inv_reachable {O : Ords} (hrel : O.decRel = true) (hacq : O.decAcq = true) {s : Sys}
    (h : Reachable O s) : Inv s := by
  induction h with
  | init l n => exact inv_init l n
  | step t a _ hs ih => exact inv_step hrel hacq ih t a hs

end Cst.MemS
