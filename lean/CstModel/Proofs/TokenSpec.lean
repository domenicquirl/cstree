/-
  Proofs/TokenSpec — `first_token` / `last_token` return the first / last token leaf of the sub-tree
  (searching on past children without tokens); `next_token` / `prev_token` the head of what follows / the last
  of what precedes the element in the leaf list of the whole tree.  None of this depends on the offsets.
-/
import CstModel.Proofs.TokenNav
import CstModel.Proofs.Walk
import CstModel.Proofs.ChunksTree
namespace Cst
open Red

mutual
/-- paths of the token leaves of a sub-tree, in source order -/
def leafPaths (p : Path) : Green → List Path
  | .tok .. => [p]
  | .node _ _ _ _ cs => leafPathsL p 0 cs
def leafPathsL (p : Path) (i : Nat) : List Green → List Path
  | [] => []
  | c :: cs => leafPaths (p ++ [i]) c ++ leafPathsL p (i + 1) cs
end

mutual
theorem leaves_map_fst : (g : Green) → (p : Path) → (o : Nat) → (leaves p o g).map (·.1) = leafPaths p g
  | .tok .., _, _ => rfl
  | .node _ _ _ _ cs, p, o => by simp only [leaves, leafPaths]; exact leavesL_map_fst cs p 0 o
theorem leavesL_map_fst : (cs : List Green) → (p : Path) → (i o : Nat) → (leavesL p i o cs).map (·.1) = leafPathsL p i cs
  | [], _, _, _ => rfl
  | c :: cs, p, i, o => by
    simp only [leavesL, leafPathsL, List.map_append, leaves_map_fst c (p ++ [i]) o, leavesL_map_fst cs p (i + 1) (o + c.len)]
end

theorem gsizeL_mem {cs : List Green} {c : Green} (h : c ∈ cs) : gsize c ≤ gsizeL cs := by
  induction cs with
  | nil => cases h
  | cons x xs ih =>
    rw [gsizeL]
    rcases List.mem_cons.mp h with rfl | h
    · exact Nat.le_add_right ..
    · exact Nat.le_trans (ih h) (Nat.le_add_left ..)

theorem gsize_child {g c : Green} (h : c ∈ g.children) {n : Nat} (hn : gsize g ≤ n + 1) : gsize c ≤ n := by
  cases g with
  | tok _ _ _ _ => cases h
  | node _ _ _ _ cs => have := gsizeL_mem (cs := cs) h; rw [gsize] at hn; omega

theorem isToken_eq {r : Red} {p : Path} {g : Green} (hg : r.green p = some g) : r.isToken p = !g.isNode := by
  rw [Red.isToken, hg]

theorem leafPaths_children {p : Path} {g : Green} (hn : g.isNode = true) : leafPaths p g = leafPathsL p 0 g.children := by
  cases g with
  | tok _ _ _ _ => cases hn
  | node _ _ _ _ _ => rfl

theorem leafPaths_tok {p : Path} {g : Green} (hn : g.isNode = false) : leafPaths p g = [p] := by
  cases g with
  | tok _ _ _ _ => rfl
  | node _ _ _ _ _ => cases hn

theorem leafPathsL_append (p : Path) (i : Nat) (a b : List Green) :
    leafPathsL p i (a ++ b) = leafPathsL p i a ++ leafPathsL p (i + a.length) b := by
  induction a generalizing i with
  | nil => rfl
  | cons c cs ih => simp only [List.cons_append, leafPathsL, ih (i + 1), List.append_assoc, List.length_cons, Nat.add_left_comm, Nat.add_comm]

theorem leafPathsL_drop (p : Path) {cs : List Green} {i : Nat} {c : Green} (hc : cs[i]? = some c) :
    leafPathsL p i (cs.drop i) = leafPaths (p ++ [i]) c ++ leafPathsL p (i + 1) (cs.drop (i + 1)) := by
  rw [List.drop_eq_getElem_cons (List.getElem?_eq_some_iff.mp hc).1, (List.getElem?_eq_some_iff.mp hc).2]; rfl

theorem leafPathsL_take_succ (p : Path) {cs : List Green} {i : Nat} {c : Green} (hc : cs[i]? = some c) :
    leafPathsL p 0 (cs.take (i + 1)) = leafPathsL p 0 (cs.take i) ++ leafPaths (p ++ [i]) c := by
  have hl : (cs.take i).length = i := List.length_take_of_le (Nat.le_of_lt (List.getElem?_eq_some_iff.mp hc).1)
  rw [List.take_add_one, hc, leafPathsL_append, hl, Nat.zero_add]
  simp [leafPathsL]

/-! ### `first_token` -/

/-- **`first_token`**: the first token leaf of the sub-tree (`None` exactly when it has none) -/
theorem firstTokenGo_spec (n : Nat) : ∀ (r : Red) (p : Path) (g : Green), Mat r p → r.green p = some g →
    gsize g ≤ n → (Red.firstTokenGo n r p).1 = (leafPaths p g).head? := by
  induction n with
  | zero => intro r p g _ _ hsz; cases g <;> simp [gsize] at hsz
  | succ n ih =>
    -- the scan over the children `rest` from `idx` on
    have scan : ∀ (p : Path) (g : Green) (rest : List Green) (idx off k : Nat) (r : Red), r.green p = some g →
        rest = g.children.drop idx → (∀ c ∈ rest, gsize c ≤ n) → rest.length < k →
        (Red.firstTokenGo.scan n ⟨p, rest, idx, off⟩ r k).1 = (leafPathsL p idx rest).head? := by
      intro p g rest
      induction rest with
      | nil =>
        intro idx off k r _ _ _ hk
        obtain _ | k := k
        · cases hk
        · simp only [Red.firstTokenGo.scan, Red.It.nextElem]; rfl
      | cons c rest ihr =>
        intro idx off k r hg hrest hsz hk
        obtain _ | k := k
        · cases hk
        have hci : g.children[idx]? = some c := by rw [← List.head?_drop, ← hrest]; rfl
        have hgc : (r.getOrAdd p idx off).green (p ++ [idx]) = some c := by
          rw [green_getOrAdd]; exact C03.get_child _ _ _ hg _ _ hci
        have h1 := ih (r.getOrAdd p idx off) (p ++ [idx]) c (Mat.getOrAdd_self ..) hgc (hsz c List.mem_cons_self)
        have hx := firstTokenGo_ext n (r.getOrAdd p idx off) (p ++ [idx])
        simp only [Red.firstTokenGo.scan, Red.It.nextElem, leafPathsL, List.head?_append, ← h1]
        generalize Red.firstTokenGo n (r.getOrAdd p idx off) (p ++ [idx]) = x at hx
        obtain ⟨_ | t, r2⟩ := x
        · exact ihr (idx + 1) _ k r2 (by rw [hx.green, green_getOrAdd]; exact hg) (by rw [← List.tail_drop, ← hrest]; rfl)
            (fun d hd => hsz d (List.mem_cons_of_mem _ hd)) (Nat.lt_of_succ_lt_succ hk)
        · rfl
    intro r p g ⟨o, ho⟩ hg hsz
    rw [Red.firstTokenGo, isToken_eq hg]
    cases hn : g.isNode with
    | false => rw [leafPaths_tok hn]; rfl
    | true =>
      have hi : iterNew r p = some ⟨p, g.children, 0, o⟩ := by simp [iterNew, hg, ho]
      simp only [Bool.not_true, Bool.false_eq_true, if_false, hi, leafPaths_children hn]
      exact scan p g _ 0 o _ r hg rfl (fun c hc => gsize_child hc hsz) (Nat.lt_succ_self _)

/-- `SyntaxNode::first_token` / `SyntaxElementRef::first_token` -/
theorem firstToken_spec (r : Red) (hr : RInv r) (p : Path) (g : Green) (hm : Mat r p) (hg : r.green p = some g) :
    (r.firstToken p).1 = (leafPaths p g).head? :=
  firstTokenGo_spec _ r p g hm hg (by simp [Red.walkFuel, hg]; omega)

/-! ### the sibling scans of `last_token`, `next_token`, `prev_token` -/

/-- the three scans, once.  `f` is tried on child `j` of `q`; if it finds nothing the scan hops on to child
    `nxt j`.  `R j`, the answer expected from child `j` on, is given by its recurrence, `μ` bounds the hops left. -/
theorem sibScan_spec {f hop : Red → Path → Option Path × Red} {scan : Red → Path → Nat → Option Path × Red}
    (hscan : ∀ r c k, scan r c (k + 1) = match f r c with
      | (some t, r') => (some t, r')
      | (none, r') => match hop r' c with
        | (some c', r'') => scan r'' c' k
        | (none, r'') => (none, r''))
    {q : Path} {tq : Green} {F R : Nat → Option Path} {nxt : Nat → Option Nat} {μ : Nat → Nat}
    (hf : ∀ r j, r.green q = some tq → Live r (q ++ [j]) → j < tq.children.length →
      (f r (q ++ [j])).1 = F j ∧ Ext r (f r (q ++ [j])).2)
    (hhop : ∀ r j, r.green q = some tq → Live r (q ++ [j]) → j < tq.children.length →
      (hop r (q ++ [j])).1 = (nxt j).map (q ++ [·]) ∧ HopOk r (hop r (q ++ [j])))
    (hnxt : ∀ j j', j < tq.children.length → nxt j = some j' → j' < tq.children.length ∧ μ j' < μ j)
    (hR : ∀ j, j < tq.children.length → R j = (F j).or ((nxt j).bind R)) :
    ∀ k r j, r.green q = some tq → Live r (q ++ [j]) → μ j < k → (scan r (q ++ [j]) k).1 = R j := by
  intro k
  induction k with
  | zero => intro _ _ _ _ h; cases h
  | succ k ih =>
    intro r j hq hl hk
    obtain ⟨tq', htq', hj⟩ := hl.parent
    cases hq.symm.trans htq'
    obtain ⟨h1, hx⟩ := hf r j hq hl hj
    rw [hscan, hR j hj, ← h1]
    generalize f r (q ++ [j]) = x at hx
    obtain ⟨_ | t, r1⟩ := x <;> dsimp only
    · have hq1 : r1.green q = some tq := by rw [hx.green]; exact hq
      obtain ⟨h2, hy⟩ := hhop r1 j hq1 (hl.ext hx) hj
      have hq2 := (hy.ext.green q).trans hq1
      generalize hop r1 (q ++ [j]) = y at h2 hy hq2
      obtain ⟨_ | c', r2⟩ := y <;> dsimp only at h2 ⊢
      · cases hn : nxt j with
        | none => rfl
        | some j' => rw [hn] at h2; cases h2
      · cases hn : nxt j with
        | none => rw [hn] at h2; cases h2
        | some j' =>
          rw [hn] at h2; cases h2
          have := hnxt j j' hj hn
          exact ih r2 j' hq2 (.child (hy.mat rfl) hq2 this.1) (Nat.lt_of_lt_of_le this.2 (Nat.le_of_lt_succ hk))
    · rfl

section
variable {q : Path} {tq : Green}

/-- scanning backwards from child `j`: the last token leaf among children `0 … j` -/
theorem backScan_spec {f : Red → Path → Option Path × Red} {scan : Red → Path → Nat → Option Path × Red}
    (hscan : ∀ r c k, scan r c (k + 1) = match f r c with
      | (some t, r') => (some t, r')
      | (none, r') => match r'.prevSiblingOrToken c with
        | (some c', r'') => scan r'' c' k
        | (none, r'') => (none, r''))
    (hf : ∀ r j c, r.green q = some tq → Mat r (q ++ [j]) → tq.children[j]? = some c →
      (f r (q ++ [j])).1 = (leafPaths (q ++ [j]) c).getLast? ∧ Ext r (f r (q ++ [j])).2)
    {k : Nat} {r : Red} {j : Nat} (hq : r.green q = some tq) (hl : Live r (q ++ [j])) (hk : j < k) :
    (scan r (q ++ [j]) k).1 = (leafPathsL q 0 (tq.children.take (j + 1))).getLast? := by
  refine sibScan_spec hscan (F := fun j => (tq.children[j]?).bind fun c => (leafPaths (q ++ [j]) c).getLast?)
    (R := fun j => (leafPathsL q 0 (tq.children.take (j + 1))).getLast?)
    (nxt := fun j => if j = 0 then none else some (j - 1)) (μ := id) ?_ ?_ ?_ ?_ k r j hq hl hk
  · intro r j hr hl hj
    rw [List.getElem?_eq_getElem hj]
    exact hf r j _ hr hl.mat (List.getElem?_eq_getElem hj)
  · intro r j hr ⟨se, hse⟩ hj
    refine ⟨?_, prevSiblingOrToken_ok r _⟩
    rw [C03.prevSiblingOrToken_spec r q j tq se hr hj hse]
    split <;> rfl
  · intro j j' hj h
    split at h
    · cases h
    · cases h; exact ⟨Nat.lt_of_le_of_lt (Nat.sub_le ..) hj, Nat.sub_lt (Nat.pos_of_ne_zero ‹_›) Nat.one_pos⟩
  · intro j hj
    simp only [leafPathsL_take_succ q (List.getElem?_eq_getElem hj), List.getLast?_append, List.getElem?_eq_getElem hj,
      Option.bind_some]
    congr 1
    split
    · next h => subst h; rfl
    · next h => simp only [Option.bind_some, Nat.sub_add_cancel (Nat.pos_of_ne_zero h)]

/-- scanning forwards from child `j`: the first token leaf among children `j, j + 1, …` -/
theorem fwdScan_spec {f : Red → Path → Option Path × Red} {scan : Red → Path → Nat → Option Path × Red}
    (hscan : ∀ r c k, scan r c (k + 1) = match f r c with
      | (some t, r') => (some t, r')
      | (none, r') => match r'.nextSiblingOrToken c with
        | (some c', r'') => scan r'' c' k
        | (none, r'') => (none, r''))
    (hf : ∀ r j c, r.green q = some tq → Mat r (q ++ [j]) → tq.children[j]? = some c →
      (f r (q ++ [j])).1 = (leafPaths (q ++ [j]) c).head? ∧ Ext r (f r (q ++ [j])).2)
    {k : Nat} {r : Red} {j : Nat} (hq : r.green q = some tq) (hl : Live r (q ++ [j])) (hk : tq.children.length - j < k) :
    (scan r (q ++ [j]) k).1 = (leafPathsL q j (tq.children.drop j)).head? := by
  refine sibScan_spec hscan (F := fun j => (tq.children[j]?).bind fun c => (leafPaths (q ++ [j]) c).head?)
    (R := fun j => (leafPathsL q j (tq.children.drop j)).head?)
    (nxt := fun j => if j + 1 < tq.children.length then some (j + 1) else none) (μ := fun j => tq.children.length - j)
    ?_ ?_ ?_ ?_ k r j hq hl hk
  · intro r j hr hl hj
    rw [List.getElem?_eq_getElem hj]
    exact hf r j _ hr hl.mat (List.getElem?_eq_getElem hj)
  · intro r j hr ⟨se, hse⟩ _
    refine ⟨?_, nextSiblingOrToken_ok r _⟩
    rw [C03.nextSiblingOrToken_spec r q j tq se hr hse]
    split <;> rfl
  · intro j j' hj h
    split at h
    · next hlt => cases h; exact ⟨hlt, by omega⟩
    · cases h
  · intro j hj
    simp only [leafPathsL_drop q (List.getElem?_eq_getElem hj), List.head?_append, List.getElem?_eq_getElem hj,
      Option.bind_some]
    congr 1
    split
    · rfl
    · next h => rw [List.drop_eq_nil_of_le (Nat.le_of_not_lt h)]; rfl

end

/-! ### `last_token` -/

theorem nSiblings_child {r : Red} {q : Path} {tq : Green} (hq : r.green q = some tq) (j : Nat) :
    Red.nSiblings r (q ++ [j]) = tq.children.length + 1 := by
  simp [Red.nSiblings, C03.parent_child, hq]

/-- **`last_token`**: the last token leaf of the sub-tree -/
theorem lastTokenGo_spec (n : Nat) : ∀ (r : Red) (p : Path) (g : Green), Mat r p → r.green p = some g →
    gsize g ≤ n → (Red.lastTokenGo n r p).1 = (leafPaths p g).getLast? := by
  induction n with
  | zero => intro r p g _ _ hsz; cases g <;> simp [gsize] at hsz
  | succ n ih =>
    intro r p g ⟨o, ho⟩ hg hsz
    rw [Red.lastTokenGo, isToken_eq hg]
    cases hn : g.isNode with
    | false => rw [leafPaths_tok hn]; rfl
    | true =>
      have hk := lastChildOrToken_ok r p
      have hp := C03.lastChildOrToken_spec r p g o hg ho
      simp only [Bool.not_true, Bool.false_eq_true, if_false, leafPaths_children hn]
      generalize r.lastChildOrToken p = x at hk hp
      obtain ⟨res, r1⟩ := x
      dsimp only at hp ⊢
      by_cases hc : g.children = []
      · rw [if_pos hc] at hp; subst hp; rw [hc]; rfl
      · rw [if_neg hc] at hp; subst hp
        have hg1 : r1.green p = some g := by rw [hk.ext.green]; exact hg
        have hlt := Nat.sub_lt (List.length_pos_iff.mpr hc) Nat.one_pos
        have := backScan_spec (scan := Red.lastTokenGo.scanBack n) (fun _ _ _ => by rw [Red.lastTokenGo.scanBack]; rfl)
          (fun r' j c hr' hm hc => ⟨ih r' _ c hm (C03.get_child _ _ _ hr' _ _ hc)
            (gsize_child (List.mem_of_getElem? hc) hsz), lastTokenGo_ext ..⟩)
          hg1 (.child (hk.mat rfl) hg1 hlt) (k := Red.nSiblings r1 (p ++ [g.children.length - 1]))
          (by rw [nSiblings_child hg1]; omega)
        rw [this, Nat.sub_add_cancel (List.length_pos_iff.mpr hc), List.take_length]

/-- `SyntaxNode::last_token` / `SyntaxElementRef::last_token` -/
theorem lastToken_spec (r : Red) (hr : RInv r) (p : Path) (g : Green) (hm : Mat r p) (hg : r.green p = some g) :
    (r.lastToken p).1 = (leafPaths p g).getLast? :=
  lastTokenGo_spec _ r p g hm hg (by simp [Red.walkFuel, hg]; omega)

/-! ### `next_token` -/

/-- the token leaves that follow the sub-tree at `p` in source order: those of the following siblings,
    then those that follow the parent (fuel = length of the path) -/
def afterGo (root : Green) : Nat → Path → List Path
  | 0, _ => []
  | n + 1, p =>
    match p.getLast? with
    | none => []
    | some i =>
      (match Green.get root p.dropLast with
       | some t => leafPathsL p.dropLast (i + 1) (t.children.drop (i + 1))
       | none => []) ++ afterGo root n p.dropLast

theorem elemFirstToken_spec {r : Red} {p : Path} {g : Green} (hm : Mat r p) (hg : r.green p = some g) :
    (Red.elemFirstToken r p).1 = (leafPaths p g).head? :=
  firstTokenGo_spec _ r p g hm hg (by simp [Red.walkFuel, hg]; omega)

theorem elemLastToken_spec {r : Red} {p : Path} {g : Green} (hm : Mat r p) (hg : r.green p = some g) :
    (Red.elemLastToken r p).1 = (leafPaths p g).getLast? :=
  lastTokenGo_spec _ r p g hm hg (by simp [Red.walkFuel, hg]; omega)

theorem nextSibScan_ext (r : Red) (s : Path) (k : Nat) : Ext r (Red.nextTokenGo.sibScan r s k).2 :=
  sibScan_ext elemFirstToken_ext (fun r p => (nextSiblingOrToken_ok r p).ext) (fun _ _ _ => rfl) (fun _ _ => rfl) ..

theorem prevSibScan_ext (r : Red) (s : Path) (k : Nat) : Ext r (Red.prevTokenGo.sibScan r s k).2 :=
  sibScan_ext elemLastToken_ext (fun r p => (prevSiblingOrToken_ok r p).ext) (fun _ _ _ => rfl) (fun _ _ => rfl) ..

/-- **`next_token`**: the first token leaf that follows the element in source order — among the following
    siblings first, then after the parent, and so on up to the root (`None` at the end of the tree) -/
theorem nextTokenGo_spec (n : Nat) : ∀ (r : Red) (cur : Path), (∀ q, q <+: cur → Mat r q) →
    (∃ c, r.green cur = some c) → cur.length ≤ n →
    (Red.nextTokenGo (n + 1) r cur).1 = (afterGo r.root (n + 1) cur).head? := by
  induction n with
  | zero =>
    intro r cur _ _ hlen
    cases List.eq_nil_of_length_eq_zero (Nat.le_zero.mp hlen)
    simp [Red.nextTokenGo, Red.nextSiblingOrToken, Red.split, Red.nextTokenGo.up, Red.parent, afterGo]
  | succ n ih =>
    intro r cur hmat ⟨c, hc⟩ hlen
    cases hl : cur.getLast? with
    | none =>
      cases List.getLast?_eq_none_iff.mp hl
      simp [Red.nextTokenGo, Red.nextSiblingOrToken, Red.split, Red.nextTokenGo.up, Red.parent, afterGo]
    | some i =>
      obtain ⟨q, rfl⟩ := List.getLast?_eq_some_iff.mp hl
      have he : Live r (q ++ [i]) := range_of_mat (hmat _ (List.prefix_refl _)) hc
      obtain ⟨tq, htq, hi⟩ := he.parent
      obtain ⟨se, hse⟩ := he
      have hk := nextSiblingOrToken_ok r (q ++ [i])
      have hp := C03.nextSiblingOrToken_spec r q i tq se htq hse
      have hup : ∀ r', Ext r r' → (Red.nextTokenGo.up (n + 1) r' (q ++ [i])).1 = (afterGo r.root (n + 1) q).head? := by
        intro r' hx
        rw [Red.nextTokenGo.up, C03.parent_child, ← hx.root]
        exact ih r' q (fun x hx' => hx.mat (hmat x (hx'.trans (List.prefix_append ..))))
          ⟨tq, by rw [hx.green]; exact htq⟩ (by simpa using hlen)
      rw [Red.nextTokenGo, afterGo]
      simp only [hl, List.dropLast_concat, show Green.get r.root q = some tq from htq]
      generalize r.nextSiblingOrToken (q ++ [i]) = x at hk hp
      obtain ⟨res, r1⟩ := x
      dsimp only at hp ⊢
      by_cases hlt : i + 1 < tq.children.length
      · rw [if_pos hlt] at hp; subst hp; dsimp only
        have hq1 : r1.green q = some tq := by rw [hk.ext.green]; exact htq
        have hs := fwdScan_spec (scan := Red.nextTokenGo.sibScan) (fun _ _ _ => rfl)
          (fun r' j c hr' hm hc => ⟨elemFirstToken_spec hm (C03.get_child _ _ _ hr' _ _ hc),
            elemFirstToken_ext ..⟩)
          hq1 (.child (hk.mat rfl) hq1 hlt) (k := Red.nSiblings r1 (q ++ [i + 1])) (by rw [nSiblings_child hq1]; omega)
        have hsx := nextSibScan_ext r1 (q ++ [i + 1]) (Red.nSiblings r1 (q ++ [i + 1]))
        rw [List.head?_append, ← hs]
        generalize Red.nextTokenGo.sibScan r1 (q ++ [i + 1]) (Red.nSiblings r1 (q ++ [i + 1])) = y at hsx
        obtain ⟨_ | t, r2⟩ := y
        · exact hup r2 (hk.ext.trans hsx)
        · rfl
      · rw [if_neg hlt] at hp; subst hp; dsimp only
        rw [List.drop_eq_nil_of_le (Nat.le_of_not_lt hlt)]
        exact hup r1 hk.ext

/-- `SyntaxToken::next_token` (and the same walk from a node) -/
theorem nextToken_spec (r : Red) (hr : RInv r) (cur : Path) (hmat : ∀ q, q <+: cur → Mat r q)
    (hg : ∃ c, r.green cur = some c) :
    (r.nextToken cur).1 = (afterGo r.root (cur.length + 1) cur).head? :=
  nextTokenGo_spec cur.length r cur hmat hg (Nat.le_refl _)

/-! ### `prev_token` -/

/-- the token leaves that precede the sub-tree at `p` in source order -/
def beforeGo (root : Green) : Nat → Path → List Path
  | 0, _ => []
  | n + 1, p =>
    match p.getLast? with
    | none => []
    | some i =>
      beforeGo root n p.dropLast ++
      (match Green.get root p.dropLast with
       | some t => leafPathsL p.dropLast 0 (t.children.take i)
       | none => [])

/-- **`prev_token`**: the last token leaf that precedes the element in source order -/
theorem prevTokenGo_spec (n : Nat) : ∀ (r : Red) (cur : Path), (∀ q, q <+: cur → Mat r q) →
    (∃ c, r.green cur = some c) → cur.length ≤ n →
    (Red.prevTokenGo (n + 1) r cur).1 = (beforeGo r.root (n + 1) cur).getLast? := by
  induction n with
  | zero =>
    intro r cur _ _ hlen
    cases List.eq_nil_of_length_eq_zero (Nat.le_zero.mp hlen)
    simp [Red.prevTokenGo, Red.prevSiblingOrToken, Red.split, Red.prevTokenGo.up, Red.parent, beforeGo]
  | succ n ih =>
    intro r cur hmat ⟨c, hc⟩ hlen
    cases hl : cur.getLast? with
    | none =>
      cases List.getLast?_eq_none_iff.mp hl
      simp [Red.prevTokenGo, Red.prevSiblingOrToken, Red.split, Red.prevTokenGo.up, Red.parent, beforeGo]
    | some i =>
      obtain ⟨q, rfl⟩ := List.getLast?_eq_some_iff.mp hl
      have he : Live r (q ++ [i]) := range_of_mat (hmat _ (List.prefix_refl _)) hc
      obtain ⟨tq, htq, hi⟩ := he.parent
      obtain ⟨se, hse⟩ := he
      have hk := prevSiblingOrToken_ok r (q ++ [i])
      have hp := C03.prevSiblingOrToken_spec r q i tq se htq hi hse
      have hup : ∀ r', Ext r r' → (Red.prevTokenGo.up (n + 1) r' (q ++ [i])).1 = (beforeGo r.root (n + 1) q).getLast? := by
        intro r' hx
        rw [Red.prevTokenGo.up, C03.parent_child, ← hx.root]
        exact ih r' q (fun x hx' => hx.mat (hmat x (hx'.trans (List.prefix_append ..))))
          ⟨tq, by rw [hx.green]; exact htq⟩ (by simpa using hlen)
      rw [Red.prevTokenGo, beforeGo]
      simp only [hl, List.dropLast_concat, show Green.get r.root q = some tq from htq]
      generalize r.prevSiblingOrToken (q ++ [i]) = x at hk hp
      obtain ⟨res, r1⟩ := x
      dsimp only at hp ⊢
      by_cases h0 : i = 0
      · rw [if_pos h0] at hp; subst hp; subst h0; dsimp only
        rw [List.take_zero, leafPathsL, List.append_nil]
        exact hup r1 hk.ext
      · rw [if_neg h0] at hp; subst hp; dsimp only
        have hq1 : r1.green q = some tq := by rw [hk.ext.green]; exact htq
        have hlt : i - 1 < tq.children.length := Nat.lt_of_le_of_lt (Nat.sub_le ..) hi
        have hs := backScan_spec (scan := Red.prevTokenGo.sibScan) (fun _ _ _ => rfl)
          (fun r' j c hr' hm hc => ⟨elemLastToken_spec hm (C03.get_child _ _ _ hr' _ _ hc),
            elemLastToken_ext ..⟩)
          hq1 (.child (hk.mat rfl) hq1 hlt) (k := Red.nSiblings r1 (q ++ [i - 1])) (by rw [nSiblings_child hq1]; omega)
        have hsx := prevSibScan_ext r1 (q ++ [i - 1]) (Red.nSiblings r1 (q ++ [i - 1]))
        rw [Nat.sub_add_cancel (Nat.pos_of_ne_zero h0)] at hs
        rw [List.getLast?_append, ← hs]
        generalize Red.prevTokenGo.sibScan r1 (q ++ [i - 1]) (Red.nSiblings r1 (q ++ [i - 1])) = y at hsx
        obtain ⟨_ | t, r2⟩ := y
        · exact hup r2 (hk.ext.trans hsx)
        · rfl

/-- `SyntaxToken::prev_token` (and the same walk from a node) -/
theorem prevToken_spec (r : Red) (hr : RInv r) (cur : Path) (hmat : ∀ q, q <+: cur → Mat r q)
    (hg : ∃ c, r.green cur = some c) :
    (r.prevToken cur).1 = (beforeGo r.root (cur.length + 1) cur).getLast? :=
  prevTokenGo_spec cur.length r cur hmat hg (Nat.le_refl _)

/-! ### `beforeGo` / `afterGo` are what surrounds the sub-tree in the source order of the whole tree -/

/-- the leaves of a node, split at child `i` -/
theorem leafPaths_split {q : Path} {t c : Green} {i : Nat} (hc : t.children[i]? = some c) :
    leafPaths q t = leafPathsL q 0 (t.children.take i) ++ leafPaths (q ++ [i]) c ++
      leafPathsL q (i + 1) (t.children.drop (i + 1)) := by
  have hi := (List.getElem?_eq_some_iff.mp hc).1
  have hn : t.isNode = true := by
    cases t with
    | tok _ _ _ _ => cases hi
    | node _ _ _ _ _ => rfl
  rw [leafPaths_children hn, ← leafPathsL_take_succ q hc]
  conv => lhs; rw [← List.take_append_drop (i + 1) t.children]
  rw [leafPathsL_append, List.length_take_of_le hi, Nat.zero_add]

theorem leaves_split (root : Green) : ∀ (n : Nat) (cur : Path) (c : Green), Green.get root cur = some c →
    cur.length ≤ n →
    leafPaths [] root = beforeGo root n cur ++ leafPaths cur c ++ afterGo root n cur := by
  intro n
  induction n with
  | zero =>
    intro cur c hc hlen
    cases List.eq_nil_of_length_eq_zero (Nat.le_zero.mp hlen)
    cases hc
    simp [beforeGo, afterGo]
  | succ n ih =>
    intro cur c hc hlen
    cases hl : cur.getLast? with
    | none =>
      cases List.getLast?_eq_none_iff.mp hl
      cases hc
      simp [beforeGo, afterGo]
    | some i =>
      obtain ⟨q, rfl⟩ := List.getLast?_eq_some_iff.mp hl
      rw [get_append_single] at hc
      cases hq : Green.get root q with
      | none => rw [hq] at hc; cases hc
      | some t =>
        rw [hq] at hc
        rw [beforeGo, afterGo]
        simp only [hl, List.dropLast_concat, hq]
        rw [ih q t hq (by simpa using hlen), leafPaths_split hc]
        simp only [List.append_assoc]

end Cst
