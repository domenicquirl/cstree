/-
  Proofs/MemModel — the invariant behind data-race freedom of the teardown.
-/
import CstModel.Model.MemModel
import CstModel.Proofs.Lists
namespace Cst.Mem

theorem le_join_left (a b : VC) (i : Nat) : a i ≤ join a b i := Nat.le_max_left _ _
theorem le_join_right (a b : VC) (i : Nat) : b i ≤ join a b i := Nat.le_max_right _ _
theorem le_tick (a : VC) (t i : Nat) : a i ≤ tick a t i := by unfold tick; split <;> omega

theorem updC_self (C : Nat → VC) (t : Nat) (c : VC) : updC C t c t = c := if_pos rfl
theorem updC_ne (C : Nat → VC) (t : Nat) (c : VC) {k : Nat} (h : k ≠ t) : updC C t c k = C k := if_neg h

/-- the clocks after a hand-over from `t` to `j` -/
def sendC (C : Nat → VC) (t j : Nat) : Nat → VC := updC (updC C j (join (C j) (C t))) t (tick (C t) t)

theorem sendC_mono (C : Nat → VC) (t j k i : Nat) : C k i ≤ sendC C t j k i := by
  unfold sendC
  by_cases hkt : k = t
  · subst hkt; rw [updC_self]; exact le_tick _ _ _
  · rw [updC_ne _ _ _ hkt]
    by_cases hkj : k = j
    · subst hkj; rw [updC_self]; exact le_join_left _ _ _
    · rw [updC_ne _ _ _ hkj]; exact Nat.le_refl _

/-- the receiver learns what the sender knew -/
theorem sendC_recv (C : Nat → VC) {t j : Nat} (hjt : j ≠ t) (i : Nat) : C t i ≤ sendC C t j j i := by
  unfold sendC; rw [updC_ne _ _ _ hjt, updC_self]; exact le_join_right _ _ _

theorem natCast_sum (l : List Nat) : ((l.sum : Nat) : Int) = (l.map fun n : Nat => (n : Int)).sum := by
  induction l with
  | nil => rfl
  | cons x xs ih => rw [List.sum_cons, List.map_cons, List.sum_cons, ← ih]; exact Int.natCast_add _ _

theorem sum_set (l : List Nat) (t n x : Nat) (h : l[t]? = some n) :
    ((l.set t x).sum : Int) = (l.sum : Int) - n + x := by
  rw [natCast_sum, natCast_sum]; exact sum_map_set _ l t n x h

theorem le_sum_of_getElem? (l : List Nat) (t n : Nat) (h : l[t]? = some n) : n ≤ l.sum := by
  have := le_sum_map (fun n : Nat => (n : Int)) (fun _ => Int.natCast_nonneg _) l t n h
  rw [← natCast_sum] at this; omega

/-- the only holder: if the handles of thread `t` are all there are, nobody else has any -/
theorem others_zero (l : List Nat) (t n : Nat) (h : l[t]? = some n) (hs : l.sum = n) :
    ∀ j m, l[j]? = some m → j ≠ t → m = 0 := by
  intro j m hj hne
  have h0 := sum_set l t n 0 h
  have := le_sum_of_getElem? (l.set t 0) j m (by rw [List.getElem?_set_ne (Ne.symm hne)]; exact hj)
  omega

def Holds (s : Sys) (a : Acc) : Prop :=
  a.ep ≤ s.L a.thr ∨ ∃ j n, s.owned[j]? = some n ∧ 1 ≤ n ∧ (j = a.thr ∨ a.ep ≤ s.C j a.thr)

structure Inv (s : Sys) : Prop where
  rcEq : s.torn = false → s.rc = (s.owned.sum : Int)
  epOwn : ∀ a ∈ s.acc, a.ep ≤ s.C a.thr a.thr
  cover : s.torn = false → ∀ a ∈ s.acc, Holds s a
  tornDone : s.torn = true → ∀ n ∈ s.owned, n = 0
  noRace : s.raced = false

theorem inv_init (l : List Nat) : Inv (Sys.init l) := by
  refine ⟨?_, ?_, ?_, ?_, rfl⟩
  · intro _; rfl
  · intro a h; simp [Sys.init] at h
  · intro _ a h; simp [Sys.init] at h
  · intro h; simp [Sys.init] at h

/-- clocks after an RMW only grow -/
theorem rmw_C_mono (s : Sys) (t : Nat) (rel acq : Bool) (j i : Nat) : s.C j i ≤ (rmw s t rel acq).C j i := by
  unfold rmw updC
  simp only
  by_cases hj : j = t
  · subst hj
    simp only [↓reduceIte]
    cases rel <;> cases acq <;> simp only [Bool.false_eq_true, ↓reduceIte]
    · exact Nat.le_refl _
    · exact le_join_left _ _ _
    · exact le_tick _ _ _
    · exact Nat.le_trans (le_join_left _ _ _) (le_tick _ _ _)
  · simp only [hj, ↓reduceIte]
    exact Nat.le_refl _

theorem rmw_L_mono (s : Sys) (t : Nat) (rel acq : Bool) (i : Nat) : s.L i ≤ (rmw s t rel acq).L i := by
  unfold rmw
  simp only
  cases rel <;> simp only [Bool.false_eq_true, ↓reduceIte]
  · exact Nat.le_refl _
  · exact le_join_left _ _ _

/-- a releasing RMW publishes everything the thread knew -/
theorem rmw_release (s : Sys) (t : Nat) (acq : Bool) (i : Nat) : s.C t i ≤ (rmw s t true acq).L i := by
  unfold rmw
  simp only [↓reduceIte]
  cases acq <;> simp only [Bool.false_eq_true, ↓reduceIte]
  · exact le_join_right _ _ _
  · exact Nat.le_trans (le_join_left _ _ _) (le_join_right _ _ _)

/-- an acquiring RMW learns everything the counter carries -/
theorem rmw_acquire (s : Sys) (t : Nat) (rel : Bool) (i : Nat) : s.L i ≤ (rmw s t rel true).C t i := by
  unfold rmw updC
  simp only [↓reduceIte]
  cases rel <;> simp only [Bool.false_eq_true, ↓reduceIte]
  · exact le_join_right _ _ _
  · exact Nat.le_trans (le_join_right _ _ _) (le_tick _ _ _)

@[simp] theorem rmw_owned (s : Sys) (t : Nat) (rel acq : Bool) : (rmw s t rel acq).owned = s.owned := rfl
@[simp] theorem rmw_acc (s : Sys) (t : Nat) (rel acq : Bool) : (rmw s t rel acq).acc = s.acc := rfl
@[simp] theorem rmw_rc (s : Sys) (t : Nat) (rel acq : Bool) : (rmw s t rel acq).rc = s.rc := rfl
@[simp] theorem rmw_torn (s : Sys) (t : Nat) (rel acq : Bool) : (rmw s t rel acq).torn = s.torn := rfl
@[simp] theorem rmw_raced (s : Sys) (t : Nat) (rel acq : Bool) : (rmw s t rel acq).raced = s.raced := rfl

theorem ordered_iff {s : Sys} {t : Nat} {a : Acc} : ordered s t a = true ↔ a.thr = t ∨ a.ep ≤ s.C t a.thr := by
  simp [ordered]

theorem torn_blocks {s : Sys} (h : Inv s) (ht : s.torn = true) (t n : Nat) (hn : s.owned[t]? = some n) : n = 0 :=
  h.tornDone ht n (List.mem_of_getElem? hn)

/-- what the clock `c` records is known to the counter's clock or to a thread that holds a handle -/
def Kept (s : Sys) (c : VC) : Prop :=
  (∀ i, c i ≤ s.L i) ∨ ∃ j n, s.owned[j]? = some n ∧ 1 ≤ n ∧ ∀ i, c i ≤ s.C j i

/-- **every step that does not tear down keeps the invariant**, provided: the counter and the handle counts stay in
    step; clocks only grow; what a handle holder knew is afterwards known to a holder or to the counter (it kept a
    handle, handed one over, or released into the counter); new accesses are made by holders at their own epoch -/
theorem inv_alive {s s' : Sys} (h : Inv s) (ht : s.torn = false) (ht' : s'.torn = s.torn)
    (hrc : s'.rc = (s'.owned.sum : Int)) (hraced : s'.raced = false)
    (hL : ∀ i, s.L i ≤ s'.L i) (hC : ∀ j i, s.C j i ≤ s'.C j i)
    (hkeep : ∀ j n, s.owned[j]? = some n → 1 ≤ n → Kept s' (s.C j))
    (hacc : ∀ a ∈ s'.acc, a ∈ s.acc ∨ a.ep ≤ s'.C a.thr a.thr ∧ ∃ n, s'.owned[a.thr]? = some n ∧ 1 ≤ n) : Inv s' := by
  refine ⟨fun _ => hrc, ?_, ?_, fun h' => absurd ((ht'.trans ht).symm.trans h') Bool.noConfusion, hraced⟩
  · intro a ha
    rcases hacc a ha with ha | ha
    · exact Nat.le_trans (h.epOwn a ha) (hC _ _)
    · exact ha.1
  · intro _ a ha
    rcases hacc a ha with ha | ⟨_, n, hn, h1⟩
    · rcases h.cover ht a ha with hl | ⟨j, n, hj, hn, hc⟩
      · exact Or.inl (Nat.le_trans hl (hL _))
      · have hc : a.ep ≤ s.C j a.thr := by
          rcases hc with rfl | hc
          · exact h.epOwn a ha
          · exact hc
        rcases hkeep j n hj hn with hk | ⟨j', n', hj', hn', hk⟩
        · exact Or.inl (Nat.le_trans hc (hk _))
        · exact Or.inr ⟨j', n', hj', hn', Or.inr (Nat.le_trans hc (hk _))⟩
    · exact Or.inr ⟨a.thr, n, hn, h1, Or.inl rfl⟩

/-- a thread that still holds a handle keeps what it knew -/
theorem kept_self {s s' : Sys} {j n : Nat} (hj : s'.owned[j]? = some n) (hn : 1 ≤ n) (hC : ∀ i, s.C j i ≤ s'.C j i) :
    Kept s' (s.C j) := Or.inr ⟨j, n, hj, hn, hC⟩

/-- the decrement that sees 1 is made by the only holder, of its only handle: afterwards nobody holds one -/
theorem sole_holder {s : Sys} (h : Inv s) (ht : s.torn = false) {t n : Nat} (hn : s.owned[t]? = some n) (h1 : 1 ≤ n)
    (hrc : s.rc = 1) : (∀ j m, s.owned[j]? = some m → j ≠ t → m = 0) ∧ ∀ m ∈ s.owned.set t (n - 1), m = 0 := by
  have := h.rcEq ht
  have := le_sum_of_getElem? s.owned t n hn
  have hothers := others_zero s.owned t n hn (by omega)
  refine ⟨hothers, fun m hm => ?_⟩
  obtain ⟨k, hk⟩ := mem_getElem? hm
  rcases getElem?_set_cases _ _ _ _ _ hk with ⟨_, rfl⟩ | ⟨hkt, hk'⟩
  · omega
  · exact hothers k m hk' hkt

/-- **every access happens-before the teardown**: once the only holder `t` has joined the counter's clock into its own
    (`c`), every access of every other thread is ordered before what `t` does next -/
theorem sole_holder_ordered {s : Sys} (h : Inv s) (ht : s.torn = false) {t n : Nat} (hn : s.owned[t]? = some n)
    (h1 : 1 ≤ n) (hrc : s.rc = 1) (c : VC) (hcC : ∀ i, s.C t i ≤ c i) (hcL : ∀ i, s.L i ≤ c i) :
    ∀ a ∈ s.acc, a.thr = t ∨ a.ep ≤ c a.thr := by
  intro a ha
  rcases h.cover ht a ha with hl | ⟨j, m, hj, hm, hc⟩
  · exact Or.inr (Nat.le_trans hl (hcL _))
  · by_cases hjt : j = t
    · subst hjt
      rcases hc with hc | hc
      · exact Or.inl hc.symm
      · exact Or.inr (Nat.le_trans hc (hcC _))
    · have := (sole_holder h ht hn h1 hrc).1 j m hj hjt
      omega

/-- a thread that holds a handle keeps the tree alive -/
theorem alive_of_holds {s : Sys} (h : Inv s) {t n : Nat} (hn : s.owned[t]? = some n) (h1 : 1 ≤ n) : s.torn = false := by
  cases ht : s.torn with
  | false => rfl
  | true => exact absurd (torn_blocks h ht t n hn) (Nat.ne_of_gt h1)

/-! ### the counter's actions, on any state (`Proofs/MemSlots` applies them to the counter part of its states) -/

theorem inv_spawn {s : Sys} (h : Inv s) : Inv { s with owned := s.owned ++ [0] } := by
  refine ⟨fun ht => ?_, h.epOwn, fun ht a ha => ?_, fun ht m hm => ?_, h.noRace⟩
  · simp only [List.sum_append, List.sum_cons, List.sum_nil, Nat.add_zero]
    exact h.rcEq ht
  · rcases h.cover ht a ha with hl | ⟨j, m, hj, hm, hc⟩
    · exact Or.inl hl
    · exact Or.inr ⟨j, m, by rw [List.getElem?_append_left (List.getElem?_eq_some_iff.mp hj).1]; exact hj, hm, hc⟩
  · rcases List.mem_append.mp hm with hm | hm
    · exact h.tornDone ht m hm
    · exact List.mem_singleton.mp hm

theorem inv_clone {s : Sys} (h : Inv s) {t n : Nat} (hn : s.owned[t]? = some n) (h1 : 1 ≤ n) (rel acq : Bool) :
    Inv (rmw { s with rc := s.rc + 1, owned := s.owned.set t (n + 1) } t rel acq) := by
  have ht := alive_of_holds h hn h1
  refine inv_alive h ht rfl ?_ h.noRace (rmw_L_mono _ _ _ _) (rmw_C_mono _ _ _ _) ?_ (fun a ha => Or.inl ha)
  · show s.rc + 1 = ((s.owned.set t (n + 1)).sum : Int)
    rw [sum_set s.owned t n (n + 1) hn, h.rcEq ht]; omega
  · intro j m hj hm
    by_cases hjt : j = t
    · subst hjt; exact kept_self (getElem?_set_self_some _ _ _ _ hn) (Nat.le_add_left 1 n) (rmw_C_mono _ _ _ _ _)
    · exact kept_self (getElem?_set_other hj hjt) hm (rmw_C_mono _ _ _ _ _)

theorem inv_send {s : Sys} (h : Inv s) {t n j m : Nat} (hn : s.owned[t]? = some n) (h1 : 1 ≤ n) (hjt : j ≠ t)
    (hm : s.owned[j]? = some m) :
    Inv { s with owned := (s.owned.set t (n - 1)).set j (m + 1), C := sendC s.C t j } := by
  have ht := alive_of_holds h hn h1
  have hj1 : (s.owned.set t (n - 1))[j]? = some m := getElem?_set_other hm hjt
  have hj' := getElem?_set_self_some _ j (m + 1) _ hj1
  refine inv_alive h ht rfl ?_ h.noRace (fun _ => Nat.le_refl _) (sendC_mono s.C t j) ?_ (fun a ha => Or.inl ha)
  · show s.rc = (((s.owned.set t (n - 1)).set j (m + 1)).sum : Int)
    rw [sum_set _ j m (m + 1) hj1, sum_set s.owned t n (n - 1) hn, h.rcEq ht]; omega
  · intro k nk hk hnk
    -- what the sender knew goes to the receiver with the handle
    by_cases hkt : k = t
    · subst hkt; exact Or.inr ⟨j, _, hj', Nat.le_add_left 1 m, sendC_recv s.C hjt⟩
    · by_cases hkj : k = j
      · subst hkj; exact Or.inr ⟨k, _, hj', Nat.le_add_left 1 m, sendC_mono s.C t k k⟩
      · exact kept_self (getElem?_set_other (getElem?_set_other hk hkt) hkj) hnk (sendC_mono s.C t j k)

/-- a decrement that is not the last, releasing -/
theorem inv_drop {s : Sys} (h : Inv s) {t n : Nat} (hn : s.owned[t]? = some n) (h1 : 1 ≤ n) (acq : Bool) :
    Inv (rmw { s with rc := s.rc - 1, owned := s.owned.set t (n - 1) } t true acq) := by
  have ht := alive_of_holds h hn h1
  refine inv_alive h ht rfl ?_ h.noRace (rmw_L_mono _ _ _ _) (rmw_C_mono _ _ _ _) ?_ (fun a ha => Or.inl ha)
  · show s.rc - 1 = ((s.owned.set t (n - 1)).sum : Int)
    rw [sum_set s.owned t n (n - 1) hn, h.rcEq ht]; omega
  · intro j m hj hm
    -- what the dropping thread knew is released into the counter
    by_cases hjt : j = t
    · subst hjt; exact Or.inl (rmw_release _ j acq)
    · exact kept_self (getElem?_set_other hj hjt) hm (rmw_C_mono _ _ _ _ _)

theorem inv_step {O : Ords} (hrel : O.decRel = true) (hacq : O.decAcq = true) {s s' : Sys} (h : Inv s)
    (t : Nat) (a : Act) (hs : step O s t a = some s') : Inv s' := by
  unfold step at hs
  split at hs
  · cases hs
  rename_i n hn
  split at hs
  · cases hs; exact inv_spawn h
  · obtain ⟨h1, hs⟩ := Option.ite_none_right_eq_some.mp hs
    cases hs; exact inv_clone h hn h1 _ _
  · obtain ⟨⟨h1, hjt⟩, hs⟩ := Option.ite_none_right_eq_some.mp hs
    split at hs <;> cases hs
    rename_i m hm
    exact inv_send h hn h1 hjt hm
  · obtain ⟨h1, hs⟩ := Option.ite_none_right_eq_some.mp hs
    cases hs
    have ht := alive_of_holds h hn h1
    refine inv_alive h ht rfl (h.rcEq ht) h.noRace (fun _ => Nat.le_refl _) (fun _ _ => Nat.le_refl _)
      (fun j m hj hm => kept_self hj hm (fun _ => Nat.le_refl _)) (fun a ha => ?_)
    rcases List.mem_cons.mp ha with rfl | ha
    · exact Or.inr ⟨Nat.le_refl _, n, hn, h1⟩
    · exact Or.inl ha
  · obtain ⟨h1, hs⟩ := Option.ite_none_right_eq_some.mp hs
    have ht := alive_of_holds h hn h1
    split at hs <;> cases hs
    · -- the last handle: teardown
      rename_i hrc
      refine ⟨fun h' => (nomatch h'), fun a ha => ?_, fun h' => (nomatch h'), fun _ => (sole_holder h ht hn h1 hrc).2, ?_⟩
      · rcases List.mem_cons.mp ha with rfl | ha
        · exact Nat.le_refl _
        · exact Nat.le_trans (h.epOwn a ha) (rmw_C_mono _ _ _ _ _ _)
      · have hord := sole_holder_ordered h ht hn h1 hrc _ (rmw_C_mono _ t O.decRel O.decAcq t)
          (hacq ▸ rmw_acquire { s with rc := s.rc - 1, owned := s.owned.set t (n - 1) } t O.decRel)
        show (s.raced || s.acc.any _) = false
        rw [h.noRace, Bool.false_or, List.any_eq_false]
        intro a ha
        rw [Bool.not_eq_true', Bool.not_eq_false]
        exact ordered_iff.mpr (hord a ha)
    · exact hrel ▸ inv_drop h hn h1 _

theorem inv_reachable {O : Ords} (hrel : O.decRel = true) (hacq : O.decAcq = true) {s : Sys}
    (h : Reachable O s) : Inv s := by
  induction h with
  | init l => exact inv_init l
  | step t a _ hs ih => exact inv_step hrel hacq ih t a hs

end Cst.Mem
