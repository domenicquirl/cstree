/- lemmas for `Model/Owner` (C04): the cache each route starts from keeps invariant and interner; what the caller of
   `buildVia` holds afterwards -/
import CstModel.Model.Owner
import CstModel.Proofs.Builder
namespace Cst

theorem CacheInv.fresh {cfg : Cfg} {c : Cache} : CacheInv cfg c.fresh :=
  ⟨by simp [Cache.fresh], by simp [Cache.fresh]⟩

@[simp] theorem Cache.fresh_interner (c : Cache) : c.fresh.interner = c.interner := rfl

theorem Route.start_interner (r : Route) (c : Cache) : (r.start c).interner = c.interner := by
  cases r <;> rfl

theorem Route.start_inv {cfg : Cfg} (r : Route) {c : Cache} (h : CacheInv cfg c) : CacheInv cfg (r.start c) := by
  cases r
  · exact h
  · exact h
  · exact CacheInv.fresh
  · exact CacheInv.fresh

/-- what the caller holds after a build that returned tree `g` and cache `c'` -/
def Outcome.of (r : Route) (g : Green) (c' : Cache) : Outcome :=
  { tree := g,
    returned := if r.ownsCache then some c' else none,
    lentCache := if r.ownsCache then none else some c',
    lentInterner := if r == .withInterner then some c'.interner else none,
    intoInterner := if r.ownsCache && r.ownsInterner then some c'.interner else none }

theorem buildVia_ok_iff {cfg : Cfg} {r : Route} {c : Cache} {evs : List Ev} {o : Outcome} :
    buildVia cfg r c evs = .ok o ↔ ∃ g c', build cfg (r.start c) evs = .ok (g, c') ∧ o = Outcome.of r g c' := by
  unfold buildVia
  cases build cfg (r.start c) evs with
  | error p => simp
  | ok gc => exact ⟨fun h => ⟨gc.1, gc.2, rfl, (Except.ok.inj h).symm⟩, fun ⟨_, _, h, ho⟩ => by cases h; rw [ho]; rfl⟩

theorem Outcome.slotAfter_of (r : Route) (g : Green) (c c' : Cache) :
    (Outcome.of r g c').slotAfter r c = if r = .withInterner then c'.fresh else c' := by
  cases r <;> rfl

end Cst
