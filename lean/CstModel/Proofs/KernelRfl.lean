/-
  Proofs/KernelRfl — `kernel_rfl`: closes `lhs = rhs` by `Eq.refl lhs` and leaves the definitional-equality check
  to the *kernel*.  The elaborator cannot make it: `Rs.eval` is compiled by well-founded recursion, hence irreducible
  to `rfl` and `decide`, and where it is forced to unfold it is several times slower than the kernel on the long
  reductions that evaluating a transcribed function body is.  Nothing is trusted: the term is `Eq.refl lhs`, and the
  kernel rejects the declaration when the two sides are not definitionally equal (no axiom, no `native_decide`).
  Only the tactic framework is imported: all of `Lean` would cost every module that uses this a gigabyte.
-/
import Lean.Elab.Tactic.Basic
namespace Cst
open Lean Elab Tactic Meta in
elab "kernel_rfl" : tactic => do
  let g ← getMainGoal
  let t ← instantiateMVars (← g.getType)
  let some (_, lhs, _) := t.eq? | throwError "kernel_rfl: the goal is not an equation"
  g.assign (← mkEqRefl lhs)
end Cst
