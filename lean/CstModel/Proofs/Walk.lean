/- simulation: the state-threading preorder iterator of `Model/Red` computes the pure successor
   function of `C03` on live handles, hence enumerates the recursive preorder -/
import CstModel.Proofs.Preorder
namespace Cst
open Red C03

def Red.WE.path : WE → Path
  | .enter p => p
  | .leave p => p

/-- a live handle: a materialised position of an existing element — exactly when it reports a range -/
def Live (r : Red) (p : Path) : Prop := ∃ se, r.range p = some se

namespace Live
variable {r r' : Red} {p q : Path} {i : Nat}

theorem mat (h : Live r p) : Mat r p := h.elim fun _ => mat_of_range

theorem green (h : Live r p) : ∃ t, r.green p = some t := by
  obtain ⟨se, h⟩ := h
  unfold Red.range at h
  cases hg : r.green p with
  | some t => exact ⟨t, rfl⟩
  | none => rw [hg] at h; split at h <;> simp_all

theorem ext (h : Live r p) (he : Ext r r') : Live r' p := h.imp fun _ => he.range

/-- the parent of a live child (it need not be materialised) -/
theorem parent (h : Live r (q ++ [i])) : ∃ tq, r.green q = some tq ∧ i < tq.children.length := by
  obtain ⟨t, ht⟩ := h.green
  rw [Red.green, get_append_single] at ht
  cases hq : Green.get r.root q with
  | none => rw [hq] at ht; cases ht
  | some tq => rw [hq] at ht; exact ⟨tq, hq, (List.getElem?_eq_some_iff.mp ht).1⟩

theorem child {t : Green} (hm : Mat r (q ++ [i])) (hq : r.green q = some t) (hi : i < t.children.length) :
    Live r (q ++ [i]) :=
  range_of_mat hm (get_child r.root q t hq i _ (List.getElem?_eq_getElem hi))

end Live

theorem arity_eq {g : Green} {p : Path} {t : Green} (h : Green.get g p = some t) : arity g p = t.children.length := by
  simp [arity, h]

/-- **simulation step**: on a live handle the state-threading successor computes the pure successor, and the
    next event is again a live handle -/
theorem walkNextT_sim (start : Path) (r : Red) (hcl : Closed r) (e : WE) (he : Live r e.path) :
    (walkNextT start r e).1 = C03.next r.root start e ∧
    ∀ e', (walkNextT start r e).1 = some e' → Live (walkNextT start r e).2 e'.path := by
  cases e with
  | enter p =>
    replace he : Live r p := he
    obtain ⟨t, ht⟩ := he.green
    obtain ⟨o, ho⟩ := he.mat
    have hk := firstChildOrToken_ok r p
    have hp := C03.firstChildOrToken_spec r p t o ht ho
    simp only [walkNextT, ht, C03.next, arity_eq ht]
    by_cases hn : t.isNode = true
    · rw [if_pos hn]
      generalize r.firstChildOrToken p = x at hk hp
      obtain ⟨res, r1⟩ := x
      subst hp
      by_cases hc : t.children = []
      · simp only [hc, if_true, List.length_nil, Nat.lt_irrefl, if_false, true_and]
        rintro _ ⟨⟩; exact he.ext hk.ext
      · have hpos := List.length_pos_iff.mpr hc
        simp only [hc, if_false, hpos, if_true, true_and]
        rintro _ ⟨⟩; exact .child (hk.mat (if_neg hc)) (by rw [hk.ext.green]; exact ht) hpos
    · have hn' : t.isNode = false := Bool.eq_false_iff.mpr hn
      simp only [hn', Bool.false_eq_true, if_false, token_children hn', List.length_nil, Nat.lt_irrefl, true_and]
      rintro _ ⟨⟩; exact he
  | leave p =>
    simp only [walkNextT, C03.next]
    split
    · exact ⟨rfl, nofun⟩
    · cases hl : p.getLast? with
      | none =>
        cases List.getLast?_eq_none_iff.mp hl
        exact ⟨rfl, nofun⟩
      | some i =>
        obtain ⟨q, rfl⟩ := List.getLast?_eq_some_iff.mp hl
        replace he : Live r (q ++ [i]) := he
        obtain ⟨tq, htq, hi⟩ := he.parent
        obtain ⟨se, hse⟩ := he
        have hk := nextSiblingOrToken_ok r (q ++ [i])
        have hp := C03.nextSiblingOrToken_spec r q i tq se htq hse
        simp only [List.dropLast_concat, arity_eq htq, parent_child]
        generalize r.nextSiblingOrToken (q ++ [i]) = x at hk hp
        obtain ⟨res, r1⟩ := x
        have hq1 : r1.green q = some tq := by rw [hk.ext.green]; exact htq
        by_cases hlt : i + 1 < tq.children.length
        · rw [if_pos hlt] at hp ⊢; cases hp
          exact ⟨rfl, by rintro _ ⟨⟩; exact .child (hk.mat rfl) hq1 hlt⟩
        · rw [if_neg hlt] at hp ⊢; cases hp
          exact ⟨rfl, by rintro _ ⟨⟩; exact range_of_mat (hk.ext.mat (hcl q i (mat_of_range hse))) hq1⟩

/-- the whole walk: the modelled iterator yields exactly the pure successor-function walk, and whatever it
    yields is a live handle afterwards -/
theorem walk_sim (start : Path) (n : Nat) (r : Red) (hcl : Closed r) (e : WE) (he : Live r e.path) :
    (Red.walk (walkNextT start) n r e).1 = C03.walkN r.root start n e ∧
    ∀ e' ∈ (Red.walk (walkNextT start) n r e).1, Live (Red.walk (walkNextT start) n r e).2 e'.path := by
  induction n generalizing r e with
  | zero => exact ⟨rfl, nofun⟩
  | succ n ih =>
    have hs := walkNextT_sim start r hcl e he
    have hx := walkNextT_ext start r e
    have hw := walk_ext (walkNextT_ext start) n
    simp only [Red.walk, C03.walkN, ← hs.1]
    generalize walkNextT start r e = x at hs hx
    obtain ⟨_ | e', r1⟩ := x
    · exact ⟨rfl, by simp only; rintro _ (_ | _); exact he.ext hx; contradiction⟩
    · have hroot : r1.root = r.root := hx.root
      have := ih r1 (hx.closed hcl) e' (hs.2 e' rfl)
      refine ⟨by simp only [this.1, hroot], ?_⟩
      simp only
      rintro e'' (_ | ⟨_, h⟩)
      · exact (he.ext hx).ext (hw r1 e')
      · exact this.2 e'' h

mutual
theorem pre_length : (p : Path) → (t : Green) → (C03.pre p t).length = 2 * Red.gsize t
  | p, .tok .. => rfl
  | p, .node _ _ _ _ cs => by
    rw [C03.pre, List.length_cons, List.length_append, preL_length p 0 cs, Red.gsize, Nat.mul_add, Nat.add_comm 2]; rfl
theorem preL_length : (p : Path) → (i : Nat) → (cs : List Green) → (C03.preL p i cs).length = 2 * Red.gsizeL cs
  | _, _, [] => rfl
  | p, i, c :: cs => by
    rw [C03.preL, Red.gsizeL, List.length_append, pre_length (p ++ [i]) c, preL_length p (i + 1) cs, Nat.mul_add]
end

/-- **the modelled `preorder_with_tokens` is the recursive preorder of the sub-tree** — properly
    nested enter/leave events, every element exactly once, in source order -/
theorem preorderWithTokens_spec (r : Red) (hcl : Closed r) (p : Path) (t : Green)
    (hm : Mat r p) (ht : r.green p = some t) :
    (r.preorderWithTokens p).1 = C03.pre p t ∧ (r.preorderWithTokens p).2.root = r.root ∧
      Closed (r.preorderWithTokens p).2 ∧ (∀ q, Mat r q → Mat (r.preorderWithTokens p).2 q) := by
  have hx := preorderWithTokens_ext r p
  refine ⟨?_, hx.root, hx.closed hcl, fun _ => hx.mat⟩
  rw [Red.preorderWithTokens, (walk_sim p _ r hcl (.enter p) (range_of_mat hm ht)).1]
  have hfuel : Red.walkFuel r p = 1 + (C03.pre p t).length := by
    simp only [Red.walkFuel, ht, pre_length, Nat.add_comm]
  rw [hfuel]
  exact C03.preorder_spec r.root p t ht 1

end Cst
