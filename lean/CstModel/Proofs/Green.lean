/- helper lemmas about green elements: well-formedness, resolution, structural equality -/
import CstModel.Model.Tree
import CstModel.Proofs.Interner
namespace Cst

mutual
/-- a green element is well-formed w.r.t. a syntax and an interner: keys resolve, key-less tokens
    have static text, stored lengths and hashes are the computed ones -/
def GWf (cfg : Cfg) (I : Interner) : Green → Prop
  | .tok _ k none l => ∃ st, cfg.staticText k = some st ∧ l = blen st
  | .tok _ k (some key) l => cfg.staticText k = none ∧ ∃ s, I.resolve key = some s ∧ l = blen s
  | .node _ _ l h cs => l = sumLen cs ∧ h = cfg.H cs ∧ GWfL cfg I cs
def GWfL (cfg : Cfg) (I : Interner) : List Green → Prop
  | [] => True
  | g :: gs => GWf cfg I g ∧ GWfL cfg I gs
end

theorem GWfL_iff {cfg : Cfg} {I : Interner} {gs : List Green} : GWfL cfg I gs ↔ ∀ g ∈ gs, GWf cfg I g := by
  induction gs with
  | nil => simp [GWfL]
  | cons g gs ih => simp [GWfL, ih]

theorem GWfL_append {cfg : Cfg} {I : Interner} {as bs : List Green} :
    GWfL cfg I (as ++ bs) ↔ GWfL cfg I as ∧ GWfL cfg I bs := by
  simp only [GWfL_iff, List.mem_append]
  constructor
  · intro h; exact ⟨fun g hg => h g (Or.inl hg), fun g hg => h g (Or.inr hg)⟩
  · intro ⟨h1, h2⟩ g hg; rcases hg with hg | hg; exact h1 g hg; exact h2 g hg

mutual
theorem GWf_mono {cfg : Cfg} {I J : Interner} (hp : I.strs <+: J.strs) :
    (g : Green) → GWf cfg I g → GWf cfg J g
  | .tok _ _ none _, h => h
  | .tok _ _ (some _) _, ⟨hn, s, hs, hl⟩ => ⟨hn, s, resolve_mono hp hs, hl⟩
  | .node _ _ _ _ cs, ⟨h1, h2, h3⟩ => ⟨h1, h2, GWfL_mono hp cs h3⟩
theorem GWfL_mono {cfg : Cfg} {I J : Interner} (hp : I.strs <+: J.strs) :
    (gs : List Green) → GWfL cfg I gs → GWfL cfg J gs
  | [], _ => trivial
  | g :: gs, h => ⟨GWf_mono hp g h.1, GWfL_mono hp gs h.2⟩
end

mutual
theorem resolve_of_GWf {cfg : Cfg} {I : Interner} :
    (g : Green) → GWf cfg I g → ∃ t, resolveG cfg I g = some t ∧ g.len = blen t.text
  | .tok _ k none l, h => by
    simp only [GWf] at h
    obtain ⟨st, hs, hl⟩ := h
    exact ⟨.tok k st, by simp [resolveG, hs], by simp [Green.len, Tree.text, hl]⟩
  | .tok _ k (some key) l, h => by
    simp only [GWf] at h
    obtain ⟨_, s, hs, hl⟩ := h
    exact ⟨.tok k s, by simp [resolveG, hs], by simp [Green.len, Tree.text, hl]⟩
  | .node _ k l hh cs, h => by
    simp only [GWf] at h
    obtain ⟨ts, hts, hlen⟩ := resolveL_of_GWfL cs h.2.2
    exact ⟨.node k ts, by simp [resolveG, hts], by simp [Green.len, Tree.text, h.1, hlen]⟩
theorem resolveL_of_GWfL {cfg : Cfg} {I : Interner} :
    (gs : List Green) → GWfL cfg I gs → ∃ ts, resolveL cfg I gs = some ts ∧ sumLen gs = blen (Tree.textL ts)
  | [], _ => ⟨[], by simp [resolveL], by simp [sumLen, Tree.textL]⟩
  | g :: gs, h => by
    obtain ⟨t, ht, hl⟩ := resolve_of_GWf g h.1
    obtain ⟨ts, hts, hls⟩ := resolveL_of_GWfL gs h.2
    exact ⟨t :: ts, by simp [resolveL, ht, hts], by simp [sumLen, Tree.textL, blen_append, hl, hls]⟩
end

theorem resolveL_cons_eq_some {cfg : Cfg} {I : Interner} {g : Green} {gs : List Green} {ts : List Tree} :
    resolveL cfg I (g :: gs) = some ts ↔
      ∃ t ts', resolveG cfg I g = some t ∧ resolveL cfg I gs = some ts' ∧ ts = t :: ts' := by
  rw [resolveL]
  cases resolveG cfg I g <;> cases resolveL cfg I gs <;> simp [eq_comm]

/-- `resolveL` is the map of `resolveG` with every value there: list facts about it are facts about `List.map` -/
theorem resolveL_eq_some_iff {cfg : Cfg} {I : Interner} {gs : List Green} {ts : List Tree} :
    resolveL cfg I gs = some ts ↔ gs.map (resolveG cfg I) = ts.map some := by
  induction gs generalizing ts with
  | nil => cases ts <;> simp [resolveL]
  | cons g gs ih =>
    rw [resolveL_cons_eq_some]
    cases ts with
    | nil => simp
    | cons t ts' => simp [ih]

theorem resolveL_eq_singleton {cfg : Cfg} {I : Interner} {gs : List Green} {t : Tree} :
    resolveL cfg I gs = some [t] ↔ ∃ g, gs = [g] ∧ resolveG cfg I g = some t := by
  simp [resolveL_eq_some_iff, List.map_eq_singleton_iff]

theorem resolveL_append {cfg : Cfg} {I : Interner} (as bs : List Green) (ts us : List Tree)
    (ha : resolveL cfg I as = some ts) (hb : resolveL cfg I bs = some us) :
    resolveL cfg I (as ++ bs) = some (ts ++ us) := by
  rw [resolveL_eq_some_iff] at *; simp [ha, hb]

theorem resolveL_set {cfg : Cfg} {I : Interner} (cs : List Green) (ts : List Tree) (i : Nat) (c' : Green) (t' : Tree)
    (hr : resolveL cfg I cs = some ts) (hc : resolveG cfg I c' = some t') :
    resolveL cfg I (cs.set i c') = some (ts.set i t') := by
  rw [resolveL_eq_some_iff] at *; rw [List.map_set, List.map_set, hr, hc]

theorem resolveL_getElem {cfg : Cfg} {I : Interner} (cs : List Green) (ts : List Tree) (i : Nat) (c : Green)
    (hr : resolveL cfg I cs = some ts) (hc : cs[i]? = some c) : ∃ t, resolveG cfg I c = some t ∧ ts[i]? = some t := by
  have := congrArg (·[i]?) (resolveL_eq_some_iff.mp hr)
  simp only [List.getElem?_map, hc, Option.map_some] at this
  cases h : ts[i]? with
  | none => simp [h] at this
  | some t => exact ⟨t, by simpa [h] using this, rfl⟩

mutual
theorem resolveG_mono {cfg : Cfg} {I J : Interner} (hp : I.strs <+: J.strs) :
    (g : Green) → (t : Tree) → resolveG cfg I g = some t → resolveG cfg J g = some t
  | .tok _ _ none _, _, h => h
  | .tok _ k (some key) _, t, h => by
    obtain ⟨s, hs, rfl⟩ := Option.map_eq_some_iff.mp h
    exact Option.map_eq_some_iff.mpr ⟨s, resolve_mono hp hs, rfl⟩
  | .node _ k _ _ cs, t, h => by
    obtain ⟨ts, hts, rfl⟩ := Option.map_eq_some_iff.mp h
    exact Option.map_eq_some_iff.mpr ⟨ts, resolveL_mono hp cs ts hts, rfl⟩
theorem resolveL_mono {cfg : Cfg} {I J : Interner} (hp : I.strs <+: J.strs) :
    (gs : List Green) → (ts : List Tree) → resolveL cfg I gs = some ts → resolveL cfg J gs = some ts
  | [], ts, h => by simpa [resolveL] using h
  | g :: gs, ts, h => by
    obtain ⟨t, ts', h1, h2, rfl⟩ := resolveL_cons_eq_some.mp h
    exact resolveL_cons_eq_some.mpr ⟨t, ts', resolveG_mono hp g t h1, resolveL_mono hp gs ts' h2, rfl⟩
end

/-! ### structural equality is equality of shapes -/

mutual
/-- a green element with every allocation id forgotten: all that `==` looks at -/
def Green.shape : Green → Green
  | .tok _ k key l => .tok 0 k key l
  | .node _ k l h cs => .node 0 k l h (Green.shapeL cs)
def Green.shapeL : List Green → List Green
  | [] => []
  | g :: gs => g.shape :: Green.shapeL gs
end

mutual
theorem Green.beq_iff : (a b : Green) → (Green.beq a b = true ↔ a.shape = b.shape)
  | .tok .., .tok .. => by simp [Green.beq, Green.shape, and_assoc]
  | .node _ _ _ _ cs1, .node _ _ _ _ cs2 => by simp [Green.beq, Green.shape, and_assoc, Green.beqL_iff cs1 cs2]
  | .tok .., .node .. => by simp [Green.beq, Green.shape]
  | .node .., .tok .. => by simp [Green.beq, Green.shape]
theorem Green.beqL_iff : (as bs : List Green) → (Green.beqL as bs = true ↔ Green.shapeL as = Green.shapeL bs)
  | [], [] => by simp [Green.beqL]
  | a :: as, b :: bs => by simp [Green.beqL, Green.shapeL, Green.beq_iff a b, Green.beqL_iff as bs]
  | [], _ :: _ => by simp [Green.beqL, Green.shapeL]
  | _ :: _, [] => by simp [Green.beqL, Green.shapeL]
end

mutual
theorem Green.shape_shape : (g : Green) → g.shape.shape = g.shape
  | .tok .. => rfl
  | .node _ _ _ _ cs => by simp [Green.shape, Green.shapeL_shapeL cs]
theorem Green.shapeL_shapeL : (gs : List Green) → Green.shapeL (Green.shapeL gs) = Green.shapeL gs
  | [] => rfl
  | g :: gs => by simp [Green.shapeL, Green.shape_shape g, Green.shapeL_shapeL gs]
end

theorem Green.beq_refl (g : Green) : Green.beq g g = true := (Green.beq_iff g g).mpr rfl

theorem Green.beqL_refl (gs : List Green) : Green.beqL gs gs = true := (Green.beqL_iff gs gs).mpr rfl

theorem Green.beqL_symm {as bs : List Green} (h : Green.beqL as bs = true) : Green.beqL bs as = true :=
  (Green.beqL_iff _ _).mpr ((Green.beqL_iff _ _).mp h).symm

theorem Green.beqL_trans {as bs cs : List Green} (h1 : Green.beqL as bs = true) (h2 : Green.beqL bs cs = true) :
    Green.beqL as cs = true :=
  (Green.beqL_iff _ _).mpr (((Green.beqL_iff _ _).mp h1).trans ((Green.beqL_iff _ _).mp h2))

/-! what `==` respects is what does not look at ids: `f g.shape = f g` -/

theorem Green.shape_len (g : Green) : g.shape.len = g.len := by cases g <;> rfl

theorem Green.shape_hashWords (g : Green) : g.shape.hashWords = g.hashWords := by
  rcases g with ⟨_, _, _ | _, _⟩ | _ <;> rfl

theorem Green.shape_headWords (g : Green) : g.shape.headWords = g.headWords := by
  rcases g with ⟨_, _, _ | _, _⟩ | _ <;> rfl

theorem Green.shapeL_eq_map (gs : List Green) : Green.shapeL gs = gs.map Green.shape := by
  induction gs <;> simp_all [Green.shapeL]

theorem sumLen_shapeL (gs : List Green) : sumLen (Green.shapeL gs) = sumLen gs := by
  induction gs <;> simp_all [Green.shapeL, sumLen, Green.shape_len]

theorem sumLen_of_beqL {as bs : List Green} (h : Green.beqL as bs = true) : sumLen as = sumLen bs := by
  rw [← sumLen_shapeL as, (Green.beqL_iff _ _).mp h, sumLen_shapeL]

mutual
theorem resolveG_shape {cfg : Cfg} {I : Interner} : (g : Green) → resolveG cfg I g.shape = resolveG cfg I g
  | .tok _ _ none _ | .tok _ _ (some _) _ => rfl
  | .node _ _ _ _ cs => by simp [Green.shape, resolveG, resolveL_shapeL cs]
theorem resolveL_shapeL {cfg : Cfg} {I : Interner} :
    (gs : List Green) → resolveL cfg I (Green.shapeL gs) = resolveL cfg I gs
  | [] => rfl
  | g :: gs => by simp [Green.shapeL, resolveL, resolveG_shape g, resolveL_shapeL gs]
end

theorem resolve_of_beq {cfg : Cfg} {I : Interner} (a b : Green) (h : Green.beq a b = true) :
    resolveG cfg I a = resolveG cfg I b := by
  rw [← resolveG_shape a, (Green.beq_iff a b).mp h, resolveG_shape]

theorem resolveL_of_beqL {cfg : Cfg} {I : Interner} (as bs : List Green) (h : Green.beqL as bs = true) :
    resolveL cfg I as = resolveL cfg I bs := by
  rw [← resolveL_shapeL as, (Green.beqL_iff as bs).mp h, resolveL_shapeL]

end Cst
