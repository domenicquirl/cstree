/-
  C10 — Interning is a stable bijection between strings and keys.

  Model: `Model/Interner` (append-only table; key = insertion index; key-space capacity) and the
  `TokenKey` raw conversion instantiated with the constants extracted from `interning.rs`.
  Property theorems only; helper lemmas are in `Proofs/Interner`.
-/
import CstModel.Proofs.Interner
import CstModel.Generated.SourceFacts
namespace Cst.C10

/-- a history: strings offered one after the other; each answer is `some key` or `none` (error) -/
def run (I : Interner) : List Text → Interner × List (Option Nat)
  | [] => (I, [])
  | s :: ss =>
    match I.intern s with
    | some (k, I') => let r := run I' ss; (r.1, some k :: r.2)
    | none => let r := run I ss; (r.1, none :: r.2)

theorem run_length (I : Interner) (ss : List Text) : (run I ss).2.length = ss.length := by
  induction ss generalizing I with
  | nil => rfl
  | cons s ss ih =>
    unfold run
    split <;> simp [ih]

/-- the table only grows by appending, so keys are stable -/
theorem run_prefix (I : Interner) (ss : List Text) : I.strs <+: (run I ss).1.strs := by
  induction ss generalizing I with
  | nil => exact List.prefix_refl _
  | cons s ss ih =>
    unfold run
    split
    · rename_i h; exact (intern_prefix h).1.trans (ih _)
    · exact ih I

/-- invariants of every reachable table: no duplicates, size within capacity, and the table only
    grows by appending -/
theorem run_inv (I : Interner) (ss : List Text) (hn : I.strs.Nodup) (hc : I.strs.length ≤ I.cap) :
    (run I ss).1.strs.Nodup ∧ (run I ss).1.strs.length ≤ (run I ss).1.cap ∧ I.strs <+: (run I ss).1.strs := by
  suffices h : (run I ss).1.strs.Nodup ∧ (run I ss).1.strs.length ≤ (run I ss).1.cap from ⟨h.1, h.2, run_prefix I ss⟩
  induction ss generalizing I with
  | nil => exact ⟨hn, hc⟩
  | cons s ss ih =>
    unfold run
    split
    · rename_i h; exact ih _ (intern_nodup hn h) (intern_lt_cap hc h).2
    · exact ih I hn hc

/-- **resolve ∘ intern = id, for ever**: every key issued anywhere in a history resolves, in the
    final table (hence in every later one), to the string it was issued for. -/
theorem issued_resolves (I : Interner) (ss : List Text)
    (i : Nat) (k : Nat) (s : Text) (hk : (run I ss).2[i]? = some (some k)) (hs : ss[i]? = some s) :
    (run I ss).1.resolve k = some s := by
  induction ss generalizing I i with
  | nil => simp at hs
  | cons x xs ih =>
    unfold run at hk ⊢
    split at hk <;> rename_i hint <;> cases i <;> simp at hk hs
    · subst hk hs; exact resolve_mono (run_prefix _ xs) (intern_resolve hint)
    · exact ih _ _ hk hs
    · exact ih _ _ hk hs

/-- **same key ⇔ same string** for any two answers of one history -/
theorem key_eq_iff (I : Interner) (ss : List Text) (hn : I.strs.Nodup) (hc : I.strs.length ≤ I.cap)
    (i j k1 k2 : Nat) (s1 s2 : Text)
    (h1 : (run I ss).2[i]? = some (some k1)) (h2 : (run I ss).2[j]? = some (some k2))
    (e1 : ss[i]? = some s1) (e2 : ss[j]? = some s2) : k1 = k2 ↔ s1 = s2 := by
  have r1 := issued_resolves I ss i k1 s1 h1 e1
  have r2 := issued_resolves I ss j k2 s2 h2 e2
  constructor
  · rintro rfl; exact Option.some.inj (r1.symm.trans r2)
  · rintro rfl; exact resolve_inj (run_inv I ss hn hc).1 r1 r2

/-- **stability**: whatever is interned later, a key keeps resolving to its string -/
theorem stable (I : Interner) (ss : List Text) (hn : I.strs.Nodup) (hc : I.strs.length ≤ I.cap)
    (k : Nat) (s : Text) (h : I.resolve k = some s) : (run I ss).1.resolve k = some s :=
  resolve_mono (run_prefix I ss) h

/-- an error (`Err(KeySpaceExhausted)`) happens only for a *new* string on a full table, and leaves
    the table unchanged -/
theorem error_iff (I : Interner) (s : Text) :
    I.intern s = none ↔ (s ∉ I.strs ∧ I.strs.length ≥ I.cap) := intern_eq_none

/-- the empty interner satisfies the invariants, so the theorems above apply to every history of
    any interner created by `new_interner()` -/
theorem empty_inv (cap : Nat) : (Interner.empty cap).strs.Nodup ∧ (Interner.empty cap).strs.length ≤ (Interner.empty cap).cap := by
  simp [Interner.empty]

/-! ### concurrent interning: any interleaving of atomic intern steps is one sequential history -/

/-- `m` is an interleaving of the per-thread sequences `ts` -/
inductive Interleaving : List (List Text) → List Text → Prop where
  | done (ts : List (List Text)) (h : ∀ t ∈ ts, t = []) : Interleaving ts []
  | step (ts : List (List Text)) (i : Nat) (s : Text) (rest : List Text) (m : List Text)
      (hi : ts[i]? = some (s :: rest)) (hm : Interleaving (ts.set i rest) m) : Interleaving ts (s :: m)

/-- with a linearisable interner, for any number of threads and any interleaving, every key issued
    to any thread resolves to its string at the end and two issued keys are equal iff their strings
    are (the per-thread view is a sub-history of the merged one) -/
theorem concurrent (ts : List (List Text)) (m : List Text) (_ : Interleaving ts m) (cap : Nat)
    (i j k1 k2 : Nat) (s1 s2 : Text)
    (h1 : (run (Interner.empty cap) m).2[i]? = some (some k1)) (h2 : (run (Interner.empty cap) m).2[j]? = some (some k2))
    (e1 : m[i]? = some s1) (e2 : m[j]? = some s2) :
    (k1 = k2 ↔ s1 = s2) ∧ (run (Interner.empty cap) m).1.resolve k1 = some s1 :=
  ⟨key_eq_iff _ m (empty_inv cap).1 (empty_inv cap).2 i j k1 k2 s1 s2 h1 h2 e1 e2,
   issued_resolves _ m i k1 s1 h1 e1⟩

/-! ### raw key conversion, instantiated with the extracted constants (all 2^32 values, by proof) -/

def guard : UInt32 := UInt32.ofNat SourceFacts.keyGuard
def up : UInt32 := UInt32.ofNat SourceFacts.keyShiftUp
def down : UInt32 := UInt32.ofNat SourceFacts.keyShiftDown

/-- **instantiation**: the guard and the two shifts as extracted from `interning.rs` -/
theorem consts : guard = 0xFFFFFFFF ∧ up = 1 ∧ down = 1 := by decide

/-- every raw value below `u32::MAX` converts to a *non-zero* stored value (soundness of the
    `NonZeroU32::new_unchecked`) and back to itself -/
theorem raw_roundtrip (r : UInt32) (h : r < 0xFFFFFFFF) :
    ∃ inner, tryFromU32 guard up r = some inner ∧ inner ≠ 0 ∧ intoU32 down inner = r := by
  obtain ⟨hg, hu, hd⟩ := consts
  refine ⟨r + 1, by simp [tryFromU32, hg, hu, h], fun e => ?_, by simp [intoU32, hd]⟩
  have := congrArg UInt32.toNat e
  rw [UInt32.lt_iff_toNat_lt] at h
  simp only [UInt32.toNat_add, UInt32.toNat_ofNat] at this h
  omega

/-- the one invalid raw value is rejected -/
theorem raw_reject : tryFromU32 guard up 0xFFFFFFFF = none := by decide

/-- every key (non-zero stored value) converts to a raw value and back to itself -/
theorem key_roundtrip (inner : UInt32) (h : inner ≠ 0) :
    tryFromU32 guard up (intoU32 down inner) = some inner := by
  obtain ⟨hg, hu, hd⟩ := consts
  have hlt : inner - 1 < 0xFFFFFFFF := by
    have h0 : inner.toNat ≠ 0 := fun e => h (UInt32.toNat_inj.mp e)
    have := inner.toNat_lt
    rw [UInt32.lt_iff_toNat_lt, UInt32.toNat_sub]
    simp only [UInt32.toNat_ofNat]
    omega
  simp [tryFromU32, intoU32, hg, hu, hd, hlt]

/-- the built-in interner never issues an index the conversion would reject: the capacity extracted
    from `default_interner.rs` is within the key space extracted from `interning.rs` -/
theorem builtin_capacity_fits : SourceFacts.nIndices ≤ SourceFacts.keyGuard := by decide

/-- lasso shim: a `usize` converts iff it is a valid raw `u32` -/
theorem usize_reject (n : Nat) (h : n ≥ 2 ^ 32 - 1) : tryFromUsize guard up n = none := by
  unfold tryFromUsize
  split
  · rename_i hlt
    have : n = 2 ^ 32 - 1 := by omega
    subst this; decide
  · rfl

/-! ### non-vacuity -/
example : (run (Interner.empty 2) [['a'], [], ['a'], ['b']]).2 = [some 0, some 1, some 0, none] := by decide
example : ∃ r : UInt32, r < 0xFFFFFFFF := ⟨5, by decide⟩

end Cst.C10
