/-
  Props/GenNode — the reference-count and slot protocol of the red tree (`syntax/node.rs`) as transcribed:
  `Clone for SyntaxNode`, `Drop for SyntaxNode`, `try_write` (installation of a freshly created child, and what the loser
  of a creation race does) and `read`.  Statements marked `#[cfg(cstree_verif)]` (the instrumentation) are skipped by the
  translator; everything these functions do to shared memory — counter read-modify-writes with amount and ordering, lock
  acquisitions with their mode, slot reads and the slot store, hand-backs of blocks to the allocator — is an *event*: the
  `Sem` below appends one per effect to a log, in program order, and the theorems state the whole log.

  These are the same facts that `tools/extract_facts.py` reads off the source by pattern (`cloneAmount`, `dropOrdering`,
  `loserNodeComp`, `slotInstallOnlyIfEmpty`, `teardownWhenPrev`, `teardownRootLast`, …) and that the theorems of C05 / C06 /
  C07 are instantiated with; here they are obtained by *evaluating* the transcribed bodies, and `facts_agree` checks that
  the two translators say the same.
-/
import CstModel.Generated.RsFns
import CstModel.Generated.SourceFacts
import CstModel.Proofs.KernelRfl
namespace Cst
namespace Gen
open Rs

/-! events -/
/-- a counter read-modify-write: the amount, and whether its ordering has a release part / an acquire part
    (`AcqRel` and `SeqCst` have both) -/
def RMW_ADD (amount : Val) (rel acq : Bool) : Val := .ctor 850 [amount, .bool rel, .bool acq]
def RMW_SUB (amount : Val) (rel acq : Bool) : Val := .ctor 851 [amount, .bool rel, .bool acq]
def ordRel : Val → Bool
  | .ctor 31 [] => true | .ctor 33 [] => true | .ctor 34 [] => true | _ => false
def ordAcq : Val → Bool
  | .ctor 32 [] => true | .ctor 33 [] => true | .ctor 34 [] => true | _ => false
def TEARDOWN (node : Val) : Val := .ctor 852 [node]
def DROPPED (v : Val) : Val := .ctor 853 [v]
def LOCK (locks idx : Val) (write : Bool) : Val := .ctor 854 [locks, idx, .bool write]
def SLOT_STORE (slot v : Val) : Val := .ctor 855 [slot, v]
def SLOT_LOAD (slot : Val) : Val := .ctor 856 [slot]

/-! values: a handle is a struct with its `data` pointer; `data()` opens it -/
def handle (id : Nat) : Val := .strct [(N.field.data, .ctor 806 [.nat id])]
def COUNTER : Val := .ctor 801 []
def nodeData (id : Nat) : Val :=
  .strct [(N.field.ref_count, COUNTER), (N.field.child_locks, .ctor 802 [.nat id]), (N.field.children, .ctor 803 [.nat id])]
def BOX (p : Val) : Val := .ctor 808 [p]
def UNCOUNTED (h : Val) : Val := .ctor 809 [h]

/-- `last`: the decrement saw 1; `empty`: the slot was empty; `content`: what a reader finds in the slot -/
structure NObs where
  last : Bool
  empty : Bool
  content : Option Val
  slotIsPointer : Bool     -- `try_write` keeps the raw slot pointer; `read` dereferences at once

def nSem (o : NObs) : Sem where
  debug := false
  app := fun _ _ => none
  call := fun f args =>
    match args with
    | [.sym 40 _, .nat 1] => if f == N.eq then .ok (.bool o.last) .unit else .unknown
    | [p, v] => if f == N.ptr_write then .okE .unit .unit (SLOT_STORE p v) else .unknown
    | [v] =>
      if f == N.drop then .okE .unit .unit (DROPPED v)
      else if f == N.Box.from_raw then .ok (BOX v) .unit
      else .unknown
    | _ => .unknown
  meth := fun m recv args =>
    match recv, args with
    | .strct [(617, .ctor 806 [.nat id])], [] =>
      if m == N.data then .ok (nodeData id) recv
      else if m == N.root then .ok (handle 0) recv
      else if m == N.clone_uncounted then .ok (handle id) recv
      else if m == N.drop_recursive then .okE .unit recv (TEARDOWN recv)
      else if m == N.parent then .ok (handle (id + 1000)) recv
      else .unknown
    | .ctor 801 [], [amount, ord] =>
      if m == N.fetch_add then .okE (.sym 40 (.atom 0)) recv (RMW_ADD amount (ordRel ord) (ordAcq ord))
      else if m == N.fetch_sub then .okE (.sym 40 (.atom 0)) recv (RMW_SUB amount (ordRel ord) (ordAcq ord))
      else .unknown
    | .ctor 802 [id], [i] => if m == N.get_unchecked then .ok (.ctor 810 [id, i]) recv else .unknown
    | .ctor 803 [id], [i] => if m == N.get_unchecked then .ok (.ctor 811 [id, i]) recv else .unknown
    | .ctor 810 [id, i], [] =>
      if m == N.write then .okE (.atom 1) recv (LOCK id i true)
      else if m == N.read then .okE (.atom 1) recv (LOCK id i false)
      else .unknown
    | .ctor 811 [id, i], [] =>
      if m == N.get then
        (if o.slotIsPointer then .ok (.ctor N.ptr [id, i]) recv
         else .okE (vOpt o.content) recv (SLOT_LOAD (.ctor N.ptr [id, i])))
      else .unknown
    | .ctor 22 [id, i], [] =>
      if m == N.is_none then .okE (.bool o.empty) recv (SLOT_LOAD (.ctor N.ptr [id, i]))
      else if m == N.is_some then .okE (.bool (!o.empty)) recv (SLOT_LOAD (.ctor N.ptr [id, i]))
      else .unknown
    | .ctor 806 [id], [] => if m == N.as_ptr then .ok (.ctor 806 [id]) recv else .unknown
    | _, _ => .unknown

def logOf (evs : List Val) : Option Val := some (.ctor 0 evs)

/-- `clone`: exactly one read-modify-write on the tree's counter, `+1`, release and acquire, then an uncounted copy of the handle -/
theorem n_clone (o : NObs) (id : Nat) :
    call (nSem o) 30 Rs.Gen.n_clone [handle id] (xs := [logId]) =
      .val (handle id) [logOf [RMW_ADD (.nat 1) true true]] := by
  kernel_rfl

/-- `drop`: exactly one read-modify-write, `-1`, release and acquire; nothing else unless it saw 1, and then: tear the children of
    the root down, drop the root handle, free the root's block, free the counter cell — in this order -/
theorem n_drop (o : NObs) (id : Nat) :
    call (nSem o) 40 Rs.Gen.n_drop [handle id] (xs := [logId]) =
      .val .unit [logOf ([RMW_SUB (.nat 1) true true] ++
        (if o.last then [TEARDOWN (handle 0), DROPPED (handle 0), DROPPED (BOX (.ctor 806 [.nat 0])), DROPPED (BOX COUNTER)] else []))] := by
  obtain ⟨last, e, c, p⟩ := o
  cases last <;> kernel_rfl

/-- `try_write(index, elem)`: takes the slot's lock exclusively, looks at the slot, and stores only into an empty slot;
    the loser of a creation race compensates the counter — `+2` for a node, `+1` for a token, release and acquire — *before* it drops what it
    had made, and hands a node's fresh block back -/
theorem n_try_write (o : NObs) (ho : o.slotIsPointer = true) (id i nid : Nat) :
    call (nSem o) 40 Rs.Gen.n_try_write [handle id, .nat i, .ctor N.SyntaxElement.Node [handle nid]] (xs := [logId]) =
      .val .unit [logOf ([LOCK (.nat id) (.nat i) true, SLOT_LOAD (.ctor N.ptr [.nat id, .nat i])] ++
        (if o.empty then [SLOT_STORE (.ctor N.ptr [.nat id, .nat i]) (vSome (.ctor N.SyntaxElement.Node [handle nid]))]
         else [RMW_ADD (.nat 2) true true, DROPPED (handle nid), DROPPED (BOX (.ctor 806 [.nat nid]))]))]
    ∧ call (nSem o) 40 Rs.Gen.n_try_write [handle id, .nat i, .ctor N.SyntaxElement.Token [handle nid]] (xs := [logId]) =
      .val .unit [logOf ([LOCK (.nat id) (.nat i) true, SLOT_LOAD (.ctor N.ptr [.nat id, .nat i])] ++
        (if o.empty then [SLOT_STORE (.ctor N.ptr [.nat id, .nat i]) (vSome (.ctor N.SyntaxElement.Token [handle nid]))]
         else [RMW_ADD (.nat 1) true true, DROPPED (handle nid)]))] := by
  obtain ⟨_, e, _, _⟩ := o
  cases ho
  cases e <;> exact ⟨by kernel_rfl, by kernel_rfl⟩

/-- `read(index)`: takes the slot's lock shared, loads the slot, hands out what it holds -/
theorem n_read (o : NObs) (ho : o.slotIsPointer = false) (id i : Nat) :
    call (nSem o) 40 Rs.Gen.n_read [handle id, .nat i] (xs := [logId]) =
      .val (vOpt o.content) [logOf [LOCK (.nat id) (.nat i) false, SLOT_LOAD (.ctor N.ptr [.nat id, .nat i])]] := by
  obtain ⟨_, _, c, _⟩ := o
  cases ho
  cases c <;> kernel_rfl

/-- the pattern translator (`Generated/SourceFacts.lean`) and the evaluated bodies say the same (ordering codes: 3 = `AcqRel`, 4 = `SeqCst` — both have the release and the acquire part the logs record) -/
theorem facts_agree :
    SourceFacts.cloneAmount = 1 ∧ (SourceFacts.cloneOrdering = 3 ∨ SourceFacts.cloneOrdering = 4) ∧ SourceFacts.dropAmount = 1 ∧ (SourceFacts.dropOrdering = 3 ∨ SourceFacts.dropOrdering = 4)
    ∧ SourceFacts.loserNodeComp = 2 ∧ (SourceFacts.loserNodeOrdering = 3 ∨ SourceFacts.loserNodeOrdering = 4) ∧ SourceFacts.loserTokenComp = 1 ∧ (SourceFacts.loserTokenOrdering = 3 ∨ SourceFacts.loserTokenOrdering = 4)
    ∧ SourceFacts.teardownWhenPrev = 1 ∧ SourceFacts.teardownRootLast = true ∧ SourceFacts.slotInstallOnlyIfEmpty = true
    ∧ SourceFacts.slotWriteUnderWriteLock = true ∧ SourceFacts.slotReadUnderReadLock = true := by
  decide

end Gen
end Cst
