/-
  Props/GenBuilder3 — the free terms of `GenBuilder2` denote what the model computes: with the observations set to the
  truth about builder `b`, the transcribed `token` / `static_token` panic exactly where `Builder.token` / `staticToken`
  return an error (leaving the builder as it was), and otherwise the cache term they leave denotes the model's new cache
  and the element they push denotes the model's new token.
-/
import CstModel.Props.GenBuilder2
namespace Cst
namespace Gen
open Rs

/-- the cache a term stands for, relative to the cache `c0` the builder started with: `c0` itself, or `c0` after interning `t` -/
def denI (c0 : Cache) : Val → Option Cache
  | .atom _ => some c0
  | .ctor 962 [.atom _, .sym 21 (.text t)] => (c0.interner.intern t).map fun r => { c0 with interner := r.2 }
  | _ => none

/-- the key argument: none, or the key interning `t` gave -/
def denKey (c0 : Cache) : Val → Option (Option Nat)
  | .ctor 2 [] => some none
  | .ctor 1 [.ctor 961 [.atom _, .sym 21 (.text t)]] => (c0.interner.intern t).map fun r => some r.1
  | _ => none

/-- `TOKEN(cache, kind, key, len)` / `CACHE_T(…)`: the model's `Cache.token` on what the arguments stand for -/
def denTokenCall (c0 : Cache) : List Val → Option (Green × Cache)
  | [cv, .nat k, keyv, .nat len] =>
    match denI c0 cv, denKey c0 keyv with
    | some c, some key => some (c.token (k, key, len))
    | _, _ => none
  | _ => none

def denTok (c0 : Cache) : Val → Option Green
  | .ctor 963 args => (denTokenCall c0 args).map (·.1)
  | _ => none

def denCache (c0 : Cache) : Val → Option Cache
  | .ctor 964 args => (denTokenCall c0 args).map (·.2)
  | v => denI c0 v

/-- the truth about builder `b`, kind `k` and text `t`, as `token` / `static_token` ask for it -/
def tobs (cfg : Cfg) (b : Builder) (k : Nat) (t : Text) : TObs where
  st := cfg.staticText k
  same := match cfg.staticText k with | some s => s == t | none => false
  internOk := (b.cache.interner.intern t).isSome
  lastPar := none
  one := false
  lastChild := none

/-- what `b_token_model` and `b_static_token_model` say, of the model's answer `r` and the outcome `X` of the transcribed
    body: an error is a panic that leaves the builder as it was; otherwise one element is pushed, it denotes the token the
    model pushes, and the cache left behind denotes the model's cache -/
def Tie (b : Builder) (c : Nat) (ps cs : List Val) (r : Except Panic Builder) (X : SeenP) : Prop :=
  (∀ e, r = .error e → X = .panic [some (encB' (.atom c) ps cs)])
  ∧ (∀ b', r = .ok b' →
      ∃ cv tv g, X = .val .unit [some (encB' cv ps (cs ++ [tv]))]
        ∧ denCache b.cache cv = some b'.cache ∧ denTok b.cache tv = some g
        ∧ b'.children = b.children ++ [g] ∧ b'.parents = b.parents)

theorem Tie.error (b : Builder) (c : Nat) (ps cs : List Val) (e : Panic) :
    Tie b c ps cs (.error e) (.panic [some (encB' (.atom c) ps cs)]) :=
  ⟨fun _ _ => rfl, fun _ h => (nomatch h)⟩

/-- the token requested, with the key `keyv` stands for, from the cache `cv` stands for, and pushed -/
theorem Tie.ok (b : Builder) (c : Nat) (ps cs : List Val) {cv keyv : Val} {c' : Cache} {key : Option Nat} (k len : Nat)
    (hc : denI b.cache cv = some c') (hk : denKey b.cache keyv = some key) :
    Tie b c ps cs (.ok { b with cache := (c'.token (k, key, len)).2, children := b.children ++ [(c'.token (k, key, len)).1] })
      (.val .unit [some (encB' (CACHE_T cv (.nat k) keyv (.nat len)) ps (cs ++ [TOKEN cv (.nat k) keyv (.nat len)]))]) := by
  refine ⟨fun _ h => (nomatch h), fun b' h => ?_⟩
  cases h
  exact ⟨_, _, _, rfl, by simp [denCache, CACHE_T, denTokenCall, hc, hk], by simp [denTok, TOKEN, denTokenCall, hc, hk], rfl, rfl⟩

/-- `token(kind, text)` as transcribed from the source against the model's `Builder.token`: an error of the model is a panic
    that leaves the builder untouched; otherwise exactly one element is pushed, it denotes the token the model pushes, and
    the cache left behind denotes the model's cache -/
theorem b_token_model (cfg : Cfg) (b : Builder) (k : Nat) (t : Text) (c : Nat) (ps cs : List Val) :
    (∀ e, b.token cfg k t = .error e →
      callP (btSem cfg.debug (tobs cfg b k t)) 60 Rs.Gen.b_token [encB' (.atom c) ps cs, .nat k, .sym 21 (.text t)]
        = .panic [some (encB' (.atom c) ps cs)])
    ∧ (∀ b', b.token cfg k t = .ok b' →
      ∃ cv tv g,
        callP (btSem cfg.debug (tobs cfg b k t)) 60 Rs.Gen.b_token [encB' (.atom c) ps cs, .nat k, .sym 21 (.text t)]
          = .val .unit [some (encB' cv ps (cs ++ [tv]))]
        ∧ denCache b.cache cv = some b'.cache ∧ denTok b.cache tv = some g
        ∧ b'.children = b.children ++ [g] ∧ b'.parents = b.parents) := by
  rw [b_token_raw]
  unfold tobs
  cases hs : cfg.staticText k with
  | none =>
    -- no static text: the interner decides
    rw [Builder.token_interned hs]
    cases hi : b.cache.interner.intern t with
    | none => exact Tie.error b c ps cs _
    | some r =>
      -- `denI` of the cache term and `denKey` of the key term are, by computation, maps over `intern t`
      exact Tie.ok b c ps cs k (blen t) (congrArg (Option.map fun r : Nat × Interner => (b.withInterner r.2).cache) hi)
        (congrArg (Option.map fun r : Nat × Interner => some r.1) hi)
  | some s =>
    -- a static-text kind: never reaches the interner
    rw [Builder.token_static hs]
    dsimp only
    by_cases hd : (cfg.debug && s != t) = true
    · rw [if_pos hd, if_pos (show (cfg.debug && !(s == t)) = true from hd)]; exact Tie.error b c ps cs _
    · rw [if_neg hd, if_neg (show ¬ (cfg.debug && !(s == t)) = true from hd)]
      exact Tie.ok b c ps cs (cv := .atom c) (keyv := vNone) k (blen s) rfl rfl

/-- `static_token(kind)` against `Builder.staticToken` -/
theorem b_static_token_model (cfg : Cfg) (b : Builder) (k : Nat) (c : Nat) (ps cs : List Val) :
    (∀ e, b.staticToken cfg k = .error e →
      callP (btSem cfg.debug (tobs cfg b k [])) 60 Rs.Gen.b_static_token [encB' (.atom c) ps cs, .nat k]
        = .panic [some (encB' (.atom c) ps cs)])
    ∧ (∀ b', b.staticToken cfg k = .ok b' →
      ∃ cv tv g,
        callP (btSem cfg.debug (tobs cfg b k [])) 60 Rs.Gen.b_static_token [encB' (.atom c) ps cs, .nat k]
          = .val .unit [some (encB' cv ps (cs ++ [tv]))]
        ∧ denCache b.cache cv = some b'.cache ∧ denTok b.cache tv = some g
        ∧ b'.children = b.children ++ [g] ∧ b'.parents = b.parents) := by
  rw [b_static_token_raw]
  unfold tobs
  cases hs : cfg.staticText k with
  | none => rw [Builder.staticToken_none hs]; exact Tie.error b c ps cs _
  | some s => rw [Builder.staticToken_some hs]; exact Tie.ok b c ps cs (cv := .atom c) (keyv := vNone) k (blen s) rfl rfl

end Gen
end Cst
