/-
  C16 — Serialized trees deserialize to the same tree.

  Model: `Model/Serde`.  Reference trees with optional per-node data (`DT`), their event stream
  and data list (what the three serialisation forms write), and `deserialize` (the visitor with its
  nesting checks, the replay into a fresh builder, the data attachment).
-/
import CstModel.Model.Serde
import CstModel.Props.C09
import CstModel.Props.C01
namespace Cst.C16

/-- a tree with optional data on its nodes -/
inductive DT where
  | tok (k : Nat) (s : Text)
  | node (k : Nat) (d : Option Nat) (cs : List DT)

mutual
def strip : DT → Tree
  | .tok k s => .tok k s
  | .node k _ cs => .node k (stripL cs)
def stripL : List DT → List Tree
  | [] => []
  | t :: ts => strip t :: stripL ts
end

mutual
/-- the event stream written for a tree (flag = the node carries data) -/
def serEv : DT → List SEv
  | .tok k s => [.token k s]
  | .node k d cs => .enter k d.isSome :: (serEvL cs ++ [.leave])
def serEvL : List DT → List SEv
  | [] => []
  | t :: ts => serEv t ++ serEvL ts
end

mutual
/-- the data options of the nodes in preorder -/
def optsOf : DT → List (Option Nat)
  | .tok .. => []
  | .node _ d cs => d :: optsOfL cs
def optsOfL : List DT → List (Option Nat)
  | [] => []
  | t :: ts => optsOf t ++ optsOfL ts
end

/-- the data list written: the data of the flagged nodes, in preorder -/
def dataOf (t : DT) : List Nat := (optsOf t).filterMap id

/-- which node (preorder index) carries which value -/
def positions : List (Option Nat) → Nat → List (Nat × Nat)
  | [], _ => []
  | none :: os, i => positions os (i + 1)
  | some d :: os, i => (i, d) :: positions os (i + 1)

theorem attach_roundtrip (os : List (Option Nat)) (i : Nat) :
    attachData (os.map Option.isSome) (os.filterMap id) i = some (positions os i) := by
  induction os generalizing i with
  | nil => rfl
  | cons o os ih =>
    cases o with
    | none => simpa [attachData, positions] using ih (i + 1)
    | some d => simp [attachData, positions, ih (i + 1)]

/-- a data list of the wrong length is rejected: too few … -/
theorem attach_underflow (fs : List Bool) (i : Nat) (h : fs.contains true = true) : attachData fs [] i = none := by
  induction fs generalizing i with
  | nil => simp at h
  | cons f fs ih =>
    cases f with
    | true => rfl
    | false => simp only [attachData]; exact ih (i + 1) (by simpa using h)

/-- … or too many -/
theorem attach_leftover (fs : List Bool) (ds : List Nat) (i : Nat) (h : (fs.filter id).length < ds.length) :
    attachData fs ds i = none := by
  induction fs generalizing ds i with
  | nil => cases ds with
    | nil => simp at h
    | cons d ds => rfl
  | cons f fs ih =>
    cases f with
    | false => simp only [attachData]; exact ih ds (i + 1) (by simpa using h)
    | true =>
      cases ds with
      | nil => rfl
      | cons d ds => simp only [attachData]; rw [ih ds (i + 1) (by simpa using h)]; rfl

/-! ### the visitor never lets the builder panic -/

/-- the three situations the visitor can be in -/
inductive Phase (cfg : Cfg) (s : DeSt) : Prop where
  | before (hb : BInv cfg s.b) (h1 : s.openN = 0) (h2 : s.roots = 0) (h3 : s.b.parents = []) (h4 : s.b.children = [])
  | inside (hb : BInv cfg s.b) (h1 : 0 < s.openN) (h2 : s.roots = 1) (h3 : s.b.parents.length = s.openN)
      (h4 : ∃ k, s.b.parents.head? = some (k, 0)) (h5 : C09.WF s.b)
  | after (hb : BInv cfg s.b) (h1 : s.openN = 0) (h2 : s.roots = 1) (h3 : s.b.parents = [])
      (h4 : ∃ g, s.b.children = [g] ∧ g.isNode = true)

theorem Phase.binv {cfg : Cfg} {s : DeSt} (h : Phase cfg s) : BInv cfg s.b := by
  cases h <;> assumption

theorem step_enter (cfg : Cfg) (s : DeSt) (k : Nat) (f : Bool) (h : ¬ (s.openN = 0 ∧ s.roots > 0)) :
    deserStep cfg s (.enter k f) =
      .ok ⟨s.b.startNode k, s.flags ++ [f], s.openN + 1, if s.openN = 0 then s.roots + 1 else s.roots⟩ := by
  simp [deserStep, h]

theorem step_leave (cfg : Cfg) (s : DeSt) (b' : Builder) (h : s.openN ≠ 0) (hf : s.b.finishNode cfg = .ok b') :
    deserStep cfg s .leave = .ok ⟨b', s.flags, s.openN - 1, s.roots⟩ := by
  simp [deserStep, h, hf]

theorem step_token (cfg : Cfg) (s : DeSt) (k : Nat) (t : Text) (b' : Builder) (h : s.openN ≠ 0)
    (ht : s.b.token cfg k t = .ok b') : deserStep cfg s (.token k t) = .ok ⟨b', s.flags, s.openN, s.roots⟩ := by
  simp [deserStep, h, ht]

theorem deserRun_cons_ok (cfg : Cfg) (s s' : DeSt) (e : SEv) (es : List SEv) (h : deserStep cfg s e = .ok s') :
    deserRun cfg s (e :: es) = deserRun cfg s' es := by
  simp [deserRun, h]

/-- one event: never a panic; the phase invariant is kept; the interner grows by at most one -/
theorem step_phase (cfg : Cfg) (hcmp : cfg.cmpChildren = true) (hdbg : cfg.debug = false) (s : DeSt)
    (hp : Phase cfg s) (hroom : s.b.cache.interner.strs.length + 1 ≤ s.b.cache.interner.cap) (e : SEv) :
    (∃ s', deserStep cfg s e = .ok s' ∧ Phase cfg s' ∧ s'.b.cache.interner.cap = s.b.cache.interner.cap ∧
        s'.b.cache.interner.strs.length ≤ s.b.cache.interner.strs.length + 1) ∨
    deserStep cfg s e = .err := by
  cases hp with
  | before hb h1 h2 h3 h4 =>
    cases e with
    | enter k f =>
      refine .inl ⟨_, step_enter cfg s k f (fun h => by simp [h2] at h), ?_, rfl, Nat.le_succ _⟩
      exact .inside ⟨hb.cache, hb.kids⟩ (Nat.succ_pos _) (by simp [h1, h2]) (by simp [Builder.startNode, h3, h1])
        ⟨k, by simp [Builder.startNode, h3, h4]⟩ (C09.wf_start s.b k (by simp [C09.WF, C09.WFl, h3]))
    | token k t => exact .inr (by simp [deserStep, h1])
    | leave => exact .inr (by simp [deserStep, h1])
  | after hb h1 h2 h3 h4 => exact .inr (by cases e <;> simp [deserStep, h1, h2])
  | inside hb h1 h2 h3 h4 h5 =>
    have hno : s.openN ≠ 0 := Nat.ne_of_gt h1
    have hopen : s.b.parents ≠ [] := List.ne_nil_of_length_pos (h3 ▸ h1)
    obtain ⟨k0, hk0⟩ := h4
    cases e with
    | enter k f =>
      refine .inl ⟨_, step_enter cfg s k f (fun h => hno h.1), ?_, rfl, Nat.le_succ _⟩
      exact .inside ⟨hb.cache, hb.kids⟩ (Nat.succ_pos _) (by simp [hno, h2]) (by simp [Builder.startNode, h3])
        ⟨k0, by simp [Builder.startNode, List.head?_append, hk0]⟩ (C09.wf_start s.b k h5)
    | token k t =>
      obtain ⟨b', hb'⟩ := token_total s.b k t (fun h => absurd (hdbg ▸ h) (by decide)) hroom
      have hp := token_pushed hb hb'
      refine .inl ⟨_, step_token cfg s k t b' hno hb', ?_, hp.cap, hp.grow⟩
      exact .inside hp.inv h1 h2 (by simp [hp.parents, h3]) ⟨k0, by simp [hp.parents, hk0]⟩ (C09.wf_token hb' h5)
    | leave =>
      obtain ⟨b', hb'⟩ := C09.finish_total (cfg := cfg) s.b h5 hopen
      obtain ⟨hinv, hint, k, first, g, hl, hpar, hch, hisn, _⟩ := finishNode_inv hb hb'
      refine .inl ⟨_, step_leave cfg s b' hno hb', ?_, by simp [hint], by simp [hint]⟩
      by_cases h1' : s.openN = 1
      · -- the root is finished: exactly one node is left
        obtain ⟨x, hx⟩ := List.length_eq_one_iff.mp (h3.trans h1')
        rw [hx] at hk0 hl
        cases hk0; cases hl
        exact .after hinv (by simp [h1']) h2 (by simp [hpar, hx]) ⟨g, by simp [hch], hisn⟩
      · have h2' : 1 < s.openN := Nat.lt_of_le_of_ne h1 (Ne.symm h1')
        exact .inside hinv (Nat.sub_pos_of_lt h2') h2 (by simp [hpar, h3])
          ⟨k0, by rw [hpar, List.head?_dropLast, if_pos (h3 ▸ h2'), hk0]⟩ (C09.wf_finish hb' h5)

/-- **rejection is an error, never a panic**: whatever the event stream and whatever the data list
    — balanced or not, any length — deserialisation does not panic (release build; the key space
    has room for the texts of the stream) -/
theorem deser_no_panic (cfg : Cfg) (hcmp : cfg.cmpChildren = true) (hdbg : cfg.debug = false)
    (cap : Nat) (evs : List SEv) (data : List Nat) (hcap : evs.length + 1 ≤ cap) :
    (∃ r, deserialize cfg cap evs data = .ok r) ∨ deserialize cfg cap evs data = .err := by
  have hrun : ∀ (evs : List SEv) (s : DeSt), Phase cfg s →
      s.b.cache.interner.strs.length + evs.length + 1 ≤ s.b.cache.interner.cap →
      (∃ s', deserRun cfg s evs = .ok s' ∧ Phase cfg s') ∨ deserRun cfg s evs = .err := by
    intro evs
    induction evs with
    | nil => intro s hp _; exact Or.inl ⟨s, rfl, hp⟩
    | cons e es ih =>
      intro s hp hroom
      simp only [List.length_cons] at hroom
      rcases step_phase cfg hcmp hdbg s hp (by omega) e with ⟨s', hs', hp', hc', hg'⟩ | herr
      · simp only [deserRun, hs']
        exact ih s' hp' (by omega)
      · right; simp [deserRun, herr]
  unfold deserialize
  have h0 : Phase cfg ⟨Builder.new (Cache.empty (Interner.empty cap)), [], 0, 0⟩ :=
    Phase.before ⟨CacheInv.empty _ _, by simp [Builder.new, GWfL]⟩ rfl rfl rfl rfl
  rcases hrun evs _ h0 (by simpa [Builder.new, Cache.empty, Interner.empty] using hcap) with ⟨s', hs', hp'⟩ | herr
  · rw [hs']
    -- only after the root has been left do the final checks pass; then exactly one node is there to finish
    cases hp' with
    | before _ _ h2 _ _ => right; simp [h2]
    | inside _ h1 _ _ _ _ => right; simp [Nat.ne_of_gt h1]
    | after hb h1 h2 h3 h4 =>
      obtain ⟨g, hg, hn⟩ := h4
      simp only [h1, h2, ne_eq, not_true_eq_false, or_self, ↓reduceIte, Builder.finish_ok_iff.mpr ⟨g, hg, hn, rfl⟩]
      cases attachData s'.flags data 0 with
      | some att => exact Or.inl ⟨_, rfl⟩
      | none => right; rfl
  · right; rw [herr]

/-! ### round trip -/

theorem deserRun_append (cfg : Cfg) (s : DeSt) (xs ys : List SEv) :
    deserRun cfg s (xs ++ ys) = (match deserRun cfg s xs with | .ok s' => deserRun cfg s' ys | .err => .err | .panic => .panic) := by
  induction xs generalizing s with
  | nil => rfl
  | cons e es ih =>
    simp only [List.cons_append, deserRun]
    cases deserStep cfg s e with
    | ok s' => exact ih s'
    | err => rfl
    | panic => rfl

/-- a node, inside an open node or as the root, given what its children do: the enter and leave events drive the
    visitor like `start_node` and `finish_node` drive the builder -/
theorem run_node (cfg : Cfg) (k : Nat) (d : Option Nat) (cs : List DT) (s : DeSt) (hs : s.openN = 0 → s.roots = 0)
    (ih : ∀ s1 : DeSt, 0 < s1.openN → ∀ b1, s1.b.run cfg (Tree.eventsL (stripL cs)) = .ok b1 →
      deserRun cfg s1 (serEvL cs) = .ok ⟨b1, s1.flags ++ (optsOfL cs).map Option.isSome, s1.openN, s1.roots⟩)
    (b' : Builder) (h : s.b.run cfg (strip (.node k d cs)).events = .ok b') :
    deserRun cfg s (serEv (.node k d cs)) =
      .ok ⟨b', s.flags ++ (optsOf (.node k d cs)).map Option.isSome, s.openN,
           if s.openN = 0 then s.roots + 1 else s.roots⟩ := by
  obtain ⟨_, hstart, h⟩ := Builder.run_cons_ok.mp h
  cases hstart
  obtain ⟨b1, h1, h2⟩ := Builder.run_append_ok.mp h
  obtain ⟨b2, hf, h3⟩ := Builder.run_cons_ok.mp h2
  cases h3
  rw [serEv, deserRun_cons_ok cfg s _ _ _ (step_enter cfg s k d.isSome (fun h => absurd h.2 (by rw [hs h.1]; exact Nat.lt_irrefl 0))),
    deserRun_append, ih _ (Nat.succ_pos _) b1 h1]
  simp only
  rw [deserRun_cons_ok cfg _ _ _ _ (step_leave cfg ⟨b1, _, _, _⟩ b' (Nat.succ_ne_zero _) hf)]
  simp [deserRun, optsOf, List.append_assoc]

mutual
/-- inside an open node, the events of a (data-carrying) tree drive the visitor exactly like the
    builder events of the stripped tree drive the builder; the flags seen are the tree's flags -/
theorem run_dt (cfg : Cfg) : (t : DT) → (s : DeSt) → 0 < s.openN → (b' : Builder) →
    s.b.run cfg (strip t).events = .ok b' →
    deserRun cfg s (serEv t) = .ok ⟨b', s.flags ++ (optsOf t).map Option.isSome, s.openN, s.roots⟩
  | .tok k tx, s, hop, b', h => by
    obtain ⟨b1, ht, h⟩ := Builder.run_cons_ok.mp h
    cases h
    rw [serEv, deserRun_cons_ok cfg s _ _ _ (step_token cfg s k tx b' (Nat.ne_of_gt hop) ht)]
    simp [deserRun, optsOf]
  | .node k d cs, s, hop, b', h => by
    rw [run_node cfg k d cs s (fun h => absurd h (Nat.ne_of_gt hop)) (fun s1 h1 b1 => run_dtL cfg cs s1 h1 b1) b' h,
      if_neg (Nat.ne_of_gt hop)]
theorem run_dtL (cfg : Cfg) : (ts : List DT) → (s : DeSt) → 0 < s.openN → (b' : Builder) →
    s.b.run cfg (Tree.eventsL (stripL ts)) = .ok b' →
    deserRun cfg s (serEvL ts) = .ok ⟨b', s.flags ++ (optsOfL ts).map Option.isSome, s.openN, s.roots⟩
  | [], s, _, b', h => by
    cases h
    simp [serEvL, deserRun, optsOfL]
  | t :: ts, s, hop, b', h => by
    obtain ⟨b1, h1, h2⟩ := Builder.run_append_ok.mp h
    rw [serEvL, deserRun_append, run_dt cfg t s hop b1 h1]
    simp only
    rw [run_dtL cfg ts ⟨b1, s.flags ++ (optsOf t).map Option.isSome, s.openN, s.roots⟩ hop b' h2]
    simp [optsOfL, List.append_assoc]
end

/-- **Round trip.** For every tree, every partial assignment of data to its nodes and every token
    text (static kinds with their static text), the events and data written by serialisation are
    read back as a tree with the same kinds, structure and token texts, with the same data on the
    same nodes (preorder index). -/
theorem roundtrip (cfg : Cfg) (hcmp : cfg.cmpChildren = true) (cap : Nat) (k : Nat) (d : Option Nat) (cs : List DT)
    (hs : StaticOk cfg (strip (.node k d cs))) (hcap : (strip (.node k d cs)).nTokens ≤ cap) :
    ∃ g c, deserialize cfg cap (serEv (.node k d cs)) (dataOf (.node k d cs)) =
        .ok (g, c, positions (optsOf (.node k d cs)) 0) ∧
      resolveG cfg c.interner g = some (strip (.node k d cs)) := by
  obtain ⟨g, c', hbuild, hres, _⟩ := build_tree hcmp (CacheInv.empty cfg (Interner.empty cap)) k (stripL cs) hs
    (by simpa [Cache.empty, Interner.empty, strip] using hcap)
  refine ⟨g, c', ?_, hres⟩
  -- the visitor's run is the builder's run, and `deserialize` finishes it like `build` does
  rw [build] at hbuild
  cases hrun : (Builder.new (Cache.empty (Interner.empty cap))).run cfg (Tree.node k (stripL cs)).events with
  | error p => simp [hrun] at hbuild
  | ok b =>
    rw [deserialize, run_node cfg k d cs _ (fun _ => rfl) (fun s1 h1 b1 => run_dtL cfg cs s1 h1 b1) b hrun]
    simp only [hrun] at hbuild
    simp [hbuild, dataOf, attach_roundtrip]

/-! ### non-vacuity: unbalanced, doubly rooted and data-mismatched streams are errors -/
example :
    let cfg : Cfg := { statics := [], H := fun _ => 0, threshold := 3, cmpChildren := true, debug := false }
    let isErr := fun (r : DRes (Green × Cache × List (Nat × Nat))) => match r with | .err => true | _ => false
    (isErr (deserialize cfg 100 [.leave] []), isErr (deserialize cfg 100 [.enter 0 false, .leave, .enter 0 false] []),
     isErr (deserialize cfg 100 [.enter 0 true, .leave] []), isErr (deserialize cfg 100 [.enter 0 false, .leave] [7]),
     isErr (deserialize cfg 100 [.enter 0 true, .token 10 ['a'], .leave] [7])) = (true, true, true, true, false) := by
  decide +kernel

end Cst.C16
