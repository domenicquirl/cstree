/-
  C20 — A failed interning leaves the builder intact.

  Model: `Builder.tokenF` (token against an interner with a fault switch).  A panic is modelled as
  an `error` outcome with the state *as the unwinding leaves it*; the caller that catches the
  unwind continues with that state.  `runF` is such a caller: it feeds events, each with a flag
  saying whether the interner has been told to fail, and carries on after every panic.
  What is proved is state equality of the model (stacks, both caches, interner, ghost ids); heap
  effects (leaks, double frees) are outside the model and are tied by the harness' allocation
  oracle and Miri only (see DESIGN §6 C20).
-/
import CstModel.Proofs.BuilderOps
namespace Cst.C20

/-- a caller that catches every panic of `token` and carries on; other events as usual.
    Returns `none` if some *non-injected* panic happens. -/
def runF (cfg : Cfg) (b : Builder) : List (Ev × Bool) → Option Builder
  | [] => some b
  | (.tok k t, fail) :: es =>
    match b.tokenF cfg k t fail with
    | (.ok b', _) => runF cfg b' es
    | (.error .internFailed, _) => if fail then runF cfg b es else none
    | (.error _, _) => none
  | (e, _) :: es =>
    match b.step cfg e with
    | .ok b' => runF cfg b' es
    | .error _ => none

/-- **the failure changes nothing**: if the interner fails while a token is being added, the
    outcome is a panic and the builder, its caches and its interner are exactly as before (the model
    returns no new state on that path; `tokenF` is the code's order of effects) -/
theorem fail_no_change (cfg : Cfg) (b : Builder) (k : Nat) (t : Text) (h : cfg.staticText k = none) :
    b.tokenF cfg k t true = (.error .internFailed, false) := by
  simp [Builder.tokenF, h]

/-- a token of a kind with static text never consults the interner, so it cannot fail this way and
    the fault stays armed for the next real interning -/
theorem static_never_interns (cfg : Cfg) (b : Builder) (k : Nat) (t st : Text) (fail : Bool)
    (h : cfg.staticText k = some st) : b.tokenF cfg k t fail = (b.token cfg k t, fail) := by
  simp [Builder.tokenF, h]

/-- without a fault `tokenF` is `token` -/
theorem no_fault (cfg : Cfg) (b : Builder) (k : Nat) (t : Text) :
    (b.tokenF cfg k t false).1 = b.token cfg k t := by
  unfold Builder.tokenF; split <;> simp

/-- the events that remain when the failed tokens are taken out -/
def surviving (cfg : Cfg) : List (Ev × Bool) → List Ev
  | [] => []
  | (.tok k t, fail) :: es =>
    if fail && (cfg.staticText k).isNone then surviving cfg es else .tok k t :: surviving cfg es
  | (e, _) :: es => e :: surviving cfg es

/-- **resuming is equivalent to never having offered the failed tokens**: for every event sequence
    and every set of fault positions (single, repeated, consecutive), catching each panic and
    carrying on ends in exactly the state reached by the remaining events alone — same stacks,
    same caches, same interner, same allocation ids — hence the same finished tree. -/
theorem resume_equiv (cfg : Cfg) (b : Builder) (es : List (Ev × Bool)) (b' : Builder)
    (h : runF cfg b es = some b') : b.run cfg (surviving cfg es) = .ok b' := by
  induction es generalizing b with
  | nil => simp [runF] at h; subst h; simp [surviving, Builder.run]
  | cons x xs ih =>
    obtain ⟨e, fail⟩ := x
    cases e with
    | tok k t =>
      simp only [runF] at h
      cases hst : cfg.staticText k with
      | some st =>
        simp only [Builder.tokenF, hst] at h
        simp only [surviving, hst, Option.isNone_some, Bool.and_false, Bool.false_eq_true, ↓reduceIte]
        cases ht : b.token cfg k t with
        | ok b1 =>
          simp only [ht] at h
          simp [Builder.run, Builder.step, ht, ih b1 h]
        | error p =>
          simp only [ht] at h
          -- a static-kind token does not call the interner, so `internFailed` is impossible
          exfalso
          rcases Builder.token_error ht with ⟨rfl, _⟩ | ⟨_, hn⟩
          · cases fail <;> simp at h
          · rw [hst] at hn; cases hn
      | none =>
        cases fail with
        | true =>
          simp only [Builder.tokenF, hst, ↓reduceIte] at h
          simp only [surviving, hst, Option.isNone_none, Bool.and_self, ↓reduceIte]
          exact ih b h
        | false =>
          simp only [Builder.tokenF, hst, Bool.false_eq_true, ↓reduceIte] at h
          simp only [surviving, Bool.false_and, Bool.false_eq_true, ↓reduceIte]
          cases ht : b.token cfg k t with
          | ok b1 =>
            simp only [ht] at h
            simp [Builder.run, Builder.step, ht, ih b1 h]
          | error p =>
            simp only [ht] at h
            cases p <;> simp at h
    | start k =>
      simp only [runF, Builder.step] at h
      simp [surviving, Builder.run, Builder.step, ih _ h]
    | stok k =>
      simp only [runF, Builder.step] at h
      cases hs : b.staticToken cfg k with
      | ok b1 => simp only [hs] at h; simp [surviving, Builder.run, Builder.step, hs, ih b1 h]
      | error p => simp [hs] at h
    | finish =>
      simp only [runF, Builder.step] at h
      cases hs : b.finishNode cfg with
      | ok b1 => simp only [hs] at h; simp [surviving, Builder.run, Builder.step, hs, ih b1 h]
      | error p => simp [hs] at h

/-- consequently the tree eventually finished equals the one built from the remaining events -/
theorem finished_tree_equiv (cfg : Cfg) (c : Cache) (es : List (Ev × Bool)) (b' : Builder)
    (h : runF cfg (Builder.new c) es = some b') :
    build cfg c (surviving cfg es) = b'.finish := by
  simp [build, resume_equiv cfg _ es b' h]

/-! ### non-vacuity: a fault before the second token, caught, and the build resumed -/
example :
    let cfg : Cfg := { statics := [], H := fun _ => 0, threshold := 3, cmpChildren := true, debug := false }
    let es : List (Ev × Bool) := [(.start 0, false), (.tok 10 ['a'], false), (.tok 10 ['b'], true), (.tok 10 ['c'], false), (.finish, false)]
    ((runF cfg (Builder.new (Cache.empty (Interner.empty 10))) es).map (fun b => b.children.length),
      surviving cfg es) = (some 1, [.start 0, .tok 10 ['a'], .tok 10 ['c'], .finish]) := by
  decide +kernel

end Cst.C20
