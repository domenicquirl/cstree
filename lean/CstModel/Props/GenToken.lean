/-
  Props/GenToken — more of the token layer as transcribed: `GreenToken::kind` / `text_len` / `text_key` read the stored
  fields, `GreenToken::text(resolver)` resolves the stored key (and only then asks the resolver), `SyntaxToken::static_text`
  asks the dialect about the token's own kind, `SyntaxToken::text_key` is the green token's, and `ResolvedToken::text`
  is the same expression as `SyntaxToken::resolve_text` with the attached resolver (C11, C15).
-/
import CstModel.Props.Gen
namespace Cst
namespace Gen
open Rs

/-- `GreenTokenData { kind, text, text_len }` behind `data()` -/
def encGT (k : Nat) (key : Option Nat) (l : Nat) : Val :=
  .ctor 901 [.strct [(N.field.kind, .nat k), (N.field.text, vOpt (key.map .nat)), (N.field.text_len, .nat l)]]

/-- `data()` opens the token; `resolver.resolve(key)` answers `R(key)` -/
def gtSem : Sem :=
  { Sem.none with meth := fun m recv args =>
      match recv, args with
      | .ctor 901 [d], [] => if m == N.data then .ok d recv else .unknown
      | .atom 77, [key] => if m == N.resolve then .ok (.ctor 902 [key]) recv else .unknown
      | _, _ => .unknown }

theorem gt_fields (k : Nat) (key : Option Nat) (l : Nat) :
    call gtSem 20 Rs.Gen.gt_kind [encGT k key l] (xs := []) = .val (.nat k) []
    ∧ call gtSem 20 Rs.Gen.gt_text_len [encGT k key l] (xs := []) = .val (.nat l) []
    ∧ call gtSem 20 Rs.Gen.gt_text_key [encGT k key l] (xs := []) = .val (vOpt (key.map .nat)) [] := by
  refine ⟨?_, ?_, ?_⟩ <;> kernel_rfl

/-- `GreenToken::text`: no key, no text (the resolver is not asked); a key is resolved by the resolver handed in -/
theorem gt_text (k : Nat) (key : Option Nat) (l : Nat) :
    call gtSem 20 Rs.Gen.gt_text [encGT k key l, .atom 77] (xs := []) =
      .val (vOpt (key.map fun key => .ctor 902 [.nat key])) [] := by
  cases key <;> kernel_rfl

/-- the token functions of `Props/Gen` with the attached resolver (`resolver()`) and the dialect's `static_text(kind)` -/
def tokSem' (dbg : Bool) (stOf : Val) : Sem :=
  { tokSem dbg with
    call := fun f args => if f == N.S.static_text then (match args with | [.nat _] => .ok stOf .unit | _ => .unknown) else (tokSem dbg).call f args
    meth := fun m recv args =>
      match recv, args with
      | .ctor 900 _, [] => if m == N.resolver then .ok (.atom 77) recv else (tokSem dbg).meth m recv args
      | _, _ => (tokSem dbg).meth m recv args }

/-- `ResolvedToken::text` computes what `SyntaxToken::resolve_text` computes (static text first, else the key's text, else the
    `unwrap` panics) -/
theorem rt_text (k : Nat) (key : Option Nat) (l o : Nat) (st rs : Option Text) :
    call (tokSem' false vNone) 20 Rs.Gen.rt_text [encTok k key l o st rs] (xs := []) =
      call (tokSem false) 20 Rs.Gen.tok_resolve_text [encTok k key l o st rs, .atom 77] (xs := []) := by
  rw [tok_resolve_text]
  cases st
  · cases key
    · kernel_rfl
    · cases rs <;> kernel_rfl
  · kernel_rfl

/-- `SyntaxToken::static_text` is the dialect's answer for the token's own kind; `text_key` is the stored key -/
theorem tok_static_text_key (k : Nat) (key : Option Nat) (l o : Nat) (st rs : Option Text) (ans : Val) :
    call (tokSem' false ans) 20 Rs.Gen.tok_static_text [encTok k key l o st rs] (xs := []) = .val ans []
    ∧ call (tokSem false) 20 Rs.Gen.tok_text_key [encTok k key l o st rs] (xs := []) = .val (vOpt (key.map .nat)) [] := by
  refine ⟨?_, ?_⟩ <;> kernel_rfl

/-- a red node as `text_range` sees it: `data().kind.as_child()` (the offset of a child, nothing for the root) and the stored
    length of its green node -/
def nodeSem (child : Option Nat) (len : Nat) : Sem :=
  { tokSem false with meth := fun m recv args =>
      match recv, args with
      | .atom 6, [] =>
        if m == N.data then .ok (.strct [(N.field.kind, .ctor 890 [])]) recv
        else if m == N.green then .ok (.ctor 891 []) recv
        else .unknown
      | .ctor 890 [], [] =>
        if m == N.as_child then .ok (vOpt (child.map fun off => vTuple [.atom 0, .atom 0, .nat off])) recv else .unknown
      | .ctor 891 [], [] => if m == N.text_len then .ok (.nat len) recv else .unknown
      | _, _ => .unknown }

/-- `SyntaxNode::text_range`: the root starts at 0, a child at the offset it was created with; the length is the green node's
    stored length (C02: the span an element reports is its offset plus the stored length — that the offset is the prefix sum is
    `history_canonical`) -/
theorem nd_text_range (child : Option Nat) (len : Nat) :
    call (nodeSem child len) 30 Rs.Gen.nd_text_range [.atom 6] (xs := []) =
      .val (vTuple [.nat (child.getD 0), .nat (child.getD 0 + len)]) [] := by
  cases child <;> kernel_rfl

end Gen
end Cst
