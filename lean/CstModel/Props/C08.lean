/-
  C08 — Thread-safety markers are sound.

  Model: `Model/Markers` — the `Send`/`Sync` decision for the handle types as a function of the
  bounds extracted from the `unsafe impl`s and from the constructors that take a resolver, and of
  four booleans about the instantiation.  What must hold semantically: node data is handed out as
  `Arc<D>` to every thread that can reach the tree and is dropped by whichever thread drops the last
  handle ⇒ `D: Send + Sync`; likewise the attached resolver ⇒ `R: Send + Sync`.
-/
import CstModel.Model.Markers
import CstModel.Generated.SourceFacts
namespace Cst.C08

/-- the facts extracted from the current source -/
def facts : MarkerFacts :=
  ⟨SourceFacts.nodeSendNeedsDSend, SourceFacts.nodeSendNeedsDSync, SourceFacts.nodeSyncNeedsDSend,
   SourceFacts.nodeSyncNeedsDSync, SourceFacts.ctorNeedsRSend, SourceFacts.ctorNeedsRSync⟩

/-- **soundness, for every instantiation**: whenever a program that builds a tree over data `D` with
    resolver `R` and moves or shares a handle is accepted, `D` and `R` are thread-safe.  Generic in
    the bounds: it holds for any marker impls that require `D: Send + Sync` and constructors that
    require `R: Send + Sync`. -/
theorem markers_sound (F : MarkerFacts) (hF : F = ⟨true, true, true, true, true, true⟩)
    (sync dSend dSync rSend rSync : Bool) (h : accepted F sync dSend dSync rSend rSync = true) :
    dSend = true ∧ dSync = true ∧ rSend = true ∧ rSync = true := by
  subst hF
  revert sync dSend dSync rSend rSync
  decide

/-- **completeness**: the documented use (thread-safe data and resolver) is accepted -/
theorem markers_complete (F : MarkerFacts) (sync : Bool) : accepted F sync true true true true = true := by
  cases sync <;> simp [accepted, ctorOk, handleOk]

/-- a generic function may assert the marker exactly when it constrains `D` to `Send + Sync` -/
theorem generic_iff (F : MarkerFacts) (hF : F = ⟨true, true, true, true, true, true⟩) (sync bSend bSync : Bool) :
    handleOk F sync bSend bSync = true ↔ (bSend = true ∧ bSync = true) := by
  subst hF
  revert sync bSend bSync
  decide

/-- **instantiation**: the bounds extracted from `syntax/node.rs` and `syntax/resolved.rs` are the
    sound ones, no other unsafe marker impl exists in the syntax module, and the green token's
    markers are the unconditional ones -/
theorem facts_sound : facts = ⟨true, true, true, true, true, true⟩ ∧ SourceFacts.otherUnsafeMarkerImpls = 0 ∧
    SourceFacts.greenTokenMarkersUnconditional = true := by decide

/-- soundness of the current source -/
theorem markers_sound_impl (sync dSend dSync rSend rSync : Bool)
    (h : accepted facts sync dSend dSync rSend rSync = true) :
    dSend = true ∧ dSync = true ∧ rSend = true ∧ rSync = true :=
  markers_sound facts facts_sound.1 sync dSend dSync rSend rSync h

/-- **text views**: a lazy text over data `D` and a caller-supplied resolver `I` crosses a thread boundary only if
    `D` is thread-safe and `I` may be shared -/
theorem text_sound (F : MarkerFacts) (hF : F = ⟨true, true, true, true, true, true⟩) (dSend dSync rSync : Bool) :
    textOk F dSend dSync rSync = true ↔ (dSend = true ∧ dSync = true ∧ rSync = true) := by
  subst hF
  revert dSend dSync rSync
  decide

/-- **the kind type does not matter**: the marker impls of the current source say nothing about `S`, so the decision for
    any kind type is the one made from `D` -/
theorem kind_irrelevant (sync dSend dSync : Bool) :
    kindFreeOk facts SourceFacts.nodeMarkersConstrainS sync dSend dSync = handleOk facts sync dSend dSync := by
  have : SourceFacts.nodeMarkersConstrainS = false := by decide
  simp [kindFreeOk, this]

/-- **traversals**: an iterator over a tree may be handed to another thread exactly when the tree's data is thread-safe --
    the documented use is accepted, data that is neither sendable nor shareable is rejected -/
theorem iter_sound (F : MarkerFacts) (hF : F = ⟨true, true, true, true, true, true⟩) (dSend dSync : Bool) :
    iterOk F dSend dSync = true ↔ (dSend = true ∧ dSync = true) := by
  subst hF
  revert dSend dSync
  decide

/-- without the bounds the decision is unsound: a tree over non-thread-safe data is accepted -/
theorem unbounded_is_unsound : accepted ⟨false, false, false, false, false, false⟩ false false false false false = true := by
  decide

end Cst.C08
