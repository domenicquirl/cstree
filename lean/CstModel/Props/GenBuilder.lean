/-
  Props/GenBuilder — the transcribed bodies of `GreenNodeBuilder`'s stack operations (`green/builder.rs`) evaluate
  to the model's `Builder` operations, for every builder state and every checkpoint (obligations of C09).

  Numbers the functions compare are handed to the evaluator *tagged* (`Val.sym`): a comparison of tagged values is
  answered by the `Sem` from a table of observations (`Obs`).  The kernel evaluates the body for every table
  (`b_*_raw`: the value, if the table passes the asserts); set to the truth about a builder and a checkpoint, the table
  passes them exactly when the model's operation succeeds (`obsRevert_ok`, `obsStartAt_ok`, against the success
  conditions of `Proofs/BuilderOps`), which is all that `b_revert_to` and `b_start_node_at` add.
-/
import CstModel.Generated.RsFns
import CstModel.Proofs.KernelRfl
import CstModel.Proofs.BuilderOps
namespace Cst
namespace Gen
open Rs

def encPar (p : Nat × Nat) : Val := vTuple [.nat p.1, .nat p.2]
/-- `parents: Vec<(S, usize)>` (ctor 911) and `children: Vec<GreenElement>` (ctor 910) -/
def encB (cache : Val) (ps : List (Nat × Nat)) (cs : List Val) : Val :=
  .strct [(N.field.cache, cache), (N.field.parents, .ctor 911 (ps.map encPar)), (N.field.children, .ctor 910 cs)]
/-- `Checkpoint { parent_idx, child_idx }`, the two indices tagged 1 and 2 -/
def encCp (cp : Nat × Nat) : Val :=
  .strct [(N.field.parent_idx, .sym 1 (.nat cp.1)), (N.field.child_idx, .sym 2 (.nat cp.2))]

/-- what the stack operations ask about the numbers they hold -/
structure Obs where
  pLePlen : Bool          -- parent_idx <= parents.len()
  pGePlen : Bool          -- parent_idx >= parents.len()
  cLeClen : Bool          -- child_idx <= children.len()
  pZero : Bool            -- parent_idx.checked_sub(1) is None
  surv : Option Nat       -- parents.get(parent_idx - 1): its first_child
  last : Option Nat       -- parents.last(): its first_child
  cGeFirst : Bool         -- child_idx >= first_child (of whichever parent was looked at)

def bSem (o : Obs) : Sem where
  debug := false
  app := fun _ _ => none
  call := fun f args =>
    match args with
    | [.sym 1 _, .sym 3 _] => if f == N.le then .ok (.bool o.pLePlen) .unit else if f == N.ge then .ok (.bool o.pGePlen) .unit else .unknown
    | [.sym 3 _, .sym 1 _] => if f == N.ge then .ok (.bool o.pLePlen) .unit else if f == N.le then .ok (.bool o.pGePlen) .unit else .unknown
    | [.sym 2 _, .sym 4 _] => if f == N.le then .ok (.bool o.cLeClen) .unit else .unknown
    | [.sym 4 _, .sym 2 _] => if f == N.ge then .ok (.bool o.cLeClen) .unit else .unknown
    | [.sym 2 _, .sym 5 _] => if f == N.ge then .ok (.bool o.cGeFirst) .unit else .unknown
    | [.sym 5 _, .sym 2 _] => if f == N.le then .ok (.bool o.cGeFirst) .unit else .unknown
    | [.sym 1 (.nat n), .nat 0] => if f == N.gt || f == N.ne then .ok (.bool (!o.pZero)) .unit else if f == N.eq then .ok (.bool o.pZero) .unit else .unknown
    | [.sym 1 (.nat n), .nat 1] =>
      if f == N.sub then (if o.pZero then .panic else .ok (.sym 8 (.nat (n - 1))) .unit)
      else if f == N.ge then .ok (.bool (!o.pZero)) .unit else .unknown
    | _ => .unknown
  meth := fun m recv args =>
    match recv, args with
    | .ctor 911 xs, [] =>
      if m == N.len then .ok (.sym 3 (.nat xs.length)) recv
      else if m == N.last then .ok (vOpt (o.last.map fun fc => vTuple [.atom 0, .sym 5 (.nat fc)])) recv
      else .unknown
    | .ctor 910 xs, [] => if m == N.len then .ok (.sym 4 (.nat xs.length)) recv else .unknown
    | .sym 1 (.nat n), [.nat 1] =>
      if m == N.checked_sub then .ok (if o.pZero then vNone else vSome (.sym 8 (.nat (n - 1)))) recv else .unknown
    | .ctor 911 _, [.sym 8 _] =>
      if m == N.get then .ok (vOpt (o.surv.map fun fc => vTuple [.atom 0, .sym 5 (.nat fc)])) recv else .unknown
    | .ctor 911 xs, [.sym 1 (.nat n)] => if m == N.truncate then .ok .unit (.ctor 911 (xs.take n)) else .unknown
    | .ctor 910 xs, [.sym 2 (.nat n)] => if m == N.truncate then .ok .unit (.ctor 910 (xs.take n)) else .unknown
    | .ctor 911 xs, [.ctor 0 [k, .sym _ (.nat c)]] => if m == N.push then .ok .unit (.ctor 911 (xs ++ [vTuple [k, .nat c]])) else .unknown
    | .ctor 910 xs, [x] => if m == N.push then .ok .unit (.ctor 910 (xs ++ [x])) else .unknown
    | _, _ => .unknown

/-- `checkpoint()`: the two stack heights -/
theorem b_checkpoint (o : Obs) (cache : Val) (ps : List (Nat × Nat)) (cs : List Val) :
    call (bSem o) 20 Rs.Gen.b_checkpoint [encB cache ps cs] =
      .val (.strct [(N.field.parent_idx, .sym 3 (.nat (ps.map encPar).length)), (N.field.child_idx, .sym 4 (.nat cs.length))])
        [some (encB cache ps cs)] := by
  kernel_rfl

/-- `start_node(kind)`: pushes `(kind, children.len())` -/
theorem b_start_node (o : Obs) (cache : Val) (ps : List (Nat × Nat)) (cs : List Val) (k : Nat) :
    call (bSem o) 20 Rs.Gen.b_start_node [encB cache ps cs, .nat k] =
      .val .unit [some (.strct [(N.field.cache, cache), (N.field.parents, .ctor 911 (ps.map encPar ++ [encPar (k, cs.length)])),
                               (N.field.children, .ctor 910 cs)])] := by
  kernel_rfl

/-- what the transcribed `revert_to` does, in terms of the observations -/
theorem b_revert_to_raw (o : Obs) (cache : Val) (ps : List (Nat × Nat)) (cs : List Val) (cp : Nat × Nat) :
    call (bSem o) 60 Rs.Gen.b_revert_to [encB cache ps cs, encCp cp] =
      (if o.pLePlen && o.cLeClen && (o.pZero || o.surv.isNone || o.cGeFirst) then
         .val .unit [some (.strct [(N.field.cache, cache), (N.field.parents, .ctor 911 ((ps.map encPar).take cp.1)),
                                   (N.field.children, .ctor 910 (cs.take cp.2))])]
       else .panic) := by
  obtain ⟨pLe, _, cLe, pZero, surv, _, cGe⟩ := o
  cases pLe
  · kernel_rfl
  cases cLe
  · kernel_rfl
  cases pZero
  · cases surv
    · kernel_rfl
    · cases cGe <;> kernel_rfl
  · kernel_rfl

/-- what the transcribed `start_node_at` does, in terms of the observations -/
theorem b_start_node_at_raw (o : Obs) (cache : Val) (ps : List (Nat × Nat)) (cs : List Val) (cp : Nat × Nat) (k : Nat) :
    call (bSem o) 60 Rs.Gen.b_start_node_at [encB cache ps cs, encCp cp, .nat k] =
      (if o.pLePlen && o.pGePlen && o.cLeClen && (o.last.isNone || o.cGeFirst) then
         .val .unit [some (.strct [(N.field.cache, cache), (N.field.parents, .ctor 911 (ps.map encPar ++ [encPar (k, cp.2)])),
                                   (N.field.children, .ctor 910 cs)])]
       else .panic) := by
  obtain ⟨pLe, pGe, cLe, _, _, last, cGe⟩ := o
  cases pLe
  · kernel_rfl
  cases pGe
  · kernel_rfl
  cases cLe
  · kernel_rfl
  cases last
  · kernel_rfl
  · cases cGe <;> kernel_rfl

theorem take_getLast? {α : Type} (ps : List α) (n : Nat) (h : n ≤ ps.length) :
    (ps.take n).getLast? = if n = 0 then none else ps[n - 1]? := by
  rw [List.getLast?_take]
  split
  · rfl
  · rw [List.getElem?_eq_getElem (by omega)]; rfl

/-- an operation that succeeds, with `a`, exactly under three conditions, and a Boolean that decides them: the two agree -/
theorem ok_or_error {α : Type} {r : Except Panic α} {A B C : Prop} {a : α} {c : Bool}
    (hc : c = true ↔ A ∧ B ∧ C) (hr : ∀ {b'}, r = .ok b' ↔ A ∧ B ∧ C ∧ b' = a) :
    (c = true ∧ r = .ok a) ∨ (c = false ∧ ∃ e, r = .error e) := by
  cases r with
  | ok b' => obtain ⟨h1, h2, h3, rfl⟩ := hr.mp rfl; exact .inl ⟨hc.mpr ⟨h1, h2, h3⟩, rfl⟩
  | error e =>
    refine .inr ⟨?_, e, rfl⟩
    cases c with
    | false => rfl
    | true => obtain ⟨h1, h2, h3⟩ := hc.mp rfl; exact nomatch hr.mpr ⟨h1, h2, h3, rfl⟩

def encBuilder (encG : Green → Val) (cacheV : Val) (b : Builder) : Val := encB cacheV b.parents (b.children.map encG)

/-- the truth about builder `b` and checkpoint `cp`, as `revert_to` asks for it -/
def obsRevert (b : Builder) (cp : Checkpoint) : Obs where
  pLePlen := decide (cp.1 ≤ b.parents.length)
  pGePlen := decide (cp.1 ≥ b.parents.length)
  cLeClen := decide (cp.2 ≤ b.children.length)
  pZero := decide (cp.1 = 0)
  surv := (b.parents[cp.1 - 1]?).map (·.2)
  last := b.parents.getLast?.map (·.2)
  cGeFirst := match b.parents[cp.1 - 1]? with | some p => decide (cp.2 ≥ p.2) | none => true

/-- the observations pass the asserts of `revert_to` exactly when `Builder.revertTo` succeeds (the parent it looks at,
    `parents[parent_idx - 1]`, is the last that survives the truncation) -/
theorem obsRevert_ok (b : Builder) (cp : Checkpoint) :
    ((obsRevert b cp).pLePlen && (obsRevert b cp).cLeClen
        && ((obsRevert b cp).pZero || (obsRevert b cp).surv.isNone || (obsRevert b cp).cGeFirst)) = true ↔
      cp.1 ≤ b.parents.length ∧ cp.2 ≤ b.children.length ∧ Builder.cpInside (b.parents.take cp.1) cp.2 := by
  unfold obsRevert Builder.cpInside
  simp only [Bool.and_eq_true, decide_eq_true_eq, Bool.or_eq_true, ge_iff_le, and_assoc]
  refine and_congr_right fun h1 => and_congr_right fun _ => ?_
  rw [take_getLast? _ _ h1]
  by_cases h0 : cp.1 = 0
  · simp [h0]
  · cases b.parents[cp.1 - 1]? <;> simp [h0]

/-- `revert_to`, as transcribed from the source, is the model's `Builder.revertTo`: it panics on exactly the
    checkpoints the model rejects and otherwise truncates both stacks to the checkpoint -/
theorem b_revert_to (encG : Green → Val) (cacheV : Val) (b : Builder) (cp : Checkpoint) :
    call (bSem (obsRevert b cp)) 60 Rs.Gen.b_revert_to [encBuilder encG cacheV b, encCp cp] =
      (match b.revertTo cp with
       | .error _ => .panic
       | .ok b' => .val .unit [some (encBuilder encG cacheV b')]) := by
  rw [encBuilder, b_revert_to_raw]
  rcases ok_or_error (obsRevert_ok b cp) Builder.revertTo_ok_iff with ⟨hc, hr⟩ | ⟨hc, e, hr⟩ <;> rw [hc, hr]
  · simp [encBuilder, encB, List.map_take]
  · rfl

/-- the truth about builder `b` and checkpoint `cp`, as `start_node_at` asks for it -/
def obsStartAt (b : Builder) (cp : Checkpoint) : Obs where
  pLePlen := decide (cp.1 ≤ b.parents.length)
  pGePlen := decide (cp.1 ≥ b.parents.length)
  cLeClen := decide (cp.2 ≤ b.children.length)
  pZero := decide (cp.1 = 0)
  surv := (b.parents[cp.1 - 1]?).map (·.2)
  last := b.parents.getLast?.map (·.2)
  cGeFirst := match b.parents.getLast? with | some p => decide (cp.2 ≥ p.2) | none => true

theorem obsStartAt_ok (b : Builder) (cp : Checkpoint) :
    ((obsStartAt b cp).pLePlen && (obsStartAt b cp).pGePlen && (obsStartAt b cp).cLeClen
        && ((obsStartAt b cp).last.isNone || (obsStartAt b cp).cGeFirst)) = true ↔
      cp.1 = b.parents.length ∧ cp.2 ≤ b.children.length ∧ Builder.cpInside b.parents cp.2 := by
  unfold obsStartAt Builder.cpInside
  simp only [Bool.and_eq_true, decide_eq_true_eq, Bool.or_eq_true, ge_iff_le, Nat.le_antisymm_iff, and_assoc]
  cases b.parents.getLast? <;> simp

/-- `start_node_at`, as transcribed from the source, is the model's `Builder.startNodeAt` -/
theorem b_start_node_at (encG : Green → Val) (cacheV : Val) (b : Builder) (cp : Checkpoint) (k : Nat) :
    call (bSem (obsStartAt b cp)) 60 Rs.Gen.b_start_node_at [encBuilder encG cacheV b, encCp cp, .nat k] =
      (match b.startNodeAt cp k with
       | .error _ => .panic
       | .ok b' => .val .unit [some (encBuilder encG cacheV b')]) := by
  rw [encBuilder, b_start_node_at_raw]
  rcases ok_or_error (obsStartAt_ok b cp) (Builder.startNodeAt_ok_iff (k := k)) with ⟨hc, hr⟩ | ⟨hc, e, hr⟩ <;> rw [hc, hr]
  · simp [encBuilder, encB, encPar]
  · rfl

/-- `checkpoint()` is the model's `Builder.checkpoint` (the two heights), and leaves the builder alone -/
theorem b_checkpoint_model (o : Obs) (encG : Green → Val) (cacheV : Val) (b : Builder) :
    call (bSem o) 20 Rs.Gen.b_checkpoint [encBuilder encG cacheV b] =
      .val (.strct [(N.field.parent_idx, .sym 3 (.nat b.checkpoint.1)), (N.field.child_idx, .sym 4 (.nat b.checkpoint.2))])
        [some (encBuilder encG cacheV b)] := by
  rw [encBuilder, b_checkpoint]; simp [Builder.checkpoint]

/-- `start_node(kind)` is the model's `Builder.startNode` -/
theorem b_start_node_model (o : Obs) (encG : Green → Val) (cacheV : Val) (b : Builder) (k : Nat) :
    call (bSem o) 20 Rs.Gen.b_start_node [encBuilder encG cacheV b, .nat k] =
      .val .unit [some (encBuilder encG cacheV (b.startNode k))] := by
  rw [encBuilder, b_start_node]; simp [Builder.startNode, encBuilder, encB]

end Gen
end Cst
