/-
  C19 — Display and debug output are total and faithful.

  Model: `Model/Fmt` (`Red.display`, `Red.debugLine`, `Red.debugRec`), `tokenDebugText` / `abbrevGo`
  (`SyntaxToken::write_debug`), with the abbreviation threshold and probe window extracted from the
  source.  Uses the simulation of the preorder iterator (`Proofs/Walk`).
-/
import CstModel.Proofs.Walk
import CstModel.Model.Fmt
import CstModel.Proofs.Text
import CstModel.Generated.SourceFacts
namespace Cst.C19

open Red C03

/-! ### the abbreviation never hits `unreachable!()` and never slices inside a character -/

/-- among any four consecutive byte positions inside a text there is a character boundary -/
theorem boundary_window (cs : Text) (n : Nat) (h : n + 3 ≤ blen cs) :
    ∃ i, n ≤ i ∧ i ≤ n + 3 ∧ isBoundary cs i = true := by
  induction cs generalizing n with
  | nil => cases h
  | cons c cs ih =>
    by_cases hn : n = 0
    · exact ⟨0, Nat.le_of_eq hn, Nat.zero_le _, rfl⟩
    · by_cases hle : c.utf8Size ≤ n
      · -- the window lies beyond the first character
        obtain ⟨m, rfl⟩ := Nat.exists_eq_add_of_le hle
        rw [blen_cons, Nat.add_assoc] at h
        obtain ⟨i, h1, h2, h3⟩ := ih m (Nat.le_of_add_le_add_left h)
        obtain ⟨p, q, rfl, rfl⟩ := isBoundary_iff.mp h3
        exact ⟨c.utf8Size + blen p, Nat.add_le_add_left h1 _, Nat.add_assoc .. ▸ Nat.add_le_add_left h2 _,
          isBoundary_iff.mpr ⟨c :: p, q, rfl, rfl⟩⟩
      · -- the first character ends inside the window: its end is a boundary
        exact ⟨c.utf8Size, Nat.le_of_lt (Nat.lt_of_not_le hle),
          Nat.le_trans (Char.utf8Size_le_four c) (Nat.add_le_add_right (Nat.pos_of_ne_zero hn) 3),
          isBoundary_iff.mpr ⟨[c], cs, rfl, rfl⟩⟩

theorem takeBytes_of_boundary (cs : Text) (i : Nat) (h : isBoundary cs i = true) :
    ∃ pre, takeBytes cs i = some pre ∧ pre <+: cs ∧ blen pre = i := by
  obtain ⟨p, q, rfl, rfl⟩ := isBoundary_iff.mp h
  exact ⟨p, takeBytes_eq_some.mpr ⟨q, rfl, rfl⟩, List.prefix_append p q, rfl⟩

/-- the probe loop finds a boundary whenever one exists in its window, and what it returns is a
    prefix of the text (cut at that boundary) followed by `" ..."` -/
theorem abbrevGo_total (t : Text) (lo k : Nat) (hex : ∃ i, lo ≤ i ∧ i < lo + k ∧ isBoundary t i = true) :
    ∃ pre, abbrevGo t lo k = some (pre ++ " ...".toList) ∧ pre <+: t ∧ lo ≤ blen pre ∧ blen pre < lo + k := by
  induction k generalizing lo with
  | zero => obtain ⟨i, h1, h2, _⟩ := hex; exact absurd h2 (Nat.not_lt.mpr h1)
  | succ k ih =>
    rw [abbrevGo]
    split
    · next hb =>
      obtain ⟨pre, h1, h2, h3⟩ := takeBytes_of_boundary t lo hb
      exact ⟨pre, by rw [h1]; rfl, h2, Nat.le_of_eq h3.symm, h3 ▸ Nat.lt_add_of_pos_right (Nat.succ_pos k)⟩
    · next hb =>
      obtain ⟨i, h1, h2, h3⟩ := hex
      have hne : lo ≠ i := fun e => hb (e ▸ h3)
      rw [← Nat.add_assoc, Nat.add_right_comm] at h2 ⊢
      obtain ⟨pre, p1, p2, p3, p4⟩ := ih (lo + 1) ⟨i, Nat.lt_of_le_of_ne h1 hne, h2, h3⟩
      exact ⟨pre, p1, p2, Nat.le_of_succ_le p3, p4⟩

/-- **token debug output is total**: with a threshold `T ≥ 4` and the window `[T − 4, T)`, the
    abbreviation of any text never reaches `unreachable!()` and never cuts inside a character; short
    texts are shown in full, long ones as a prefix of 21–24 bytes followed by `" ..."` -/
theorem token_debug_total (T : Nat) (hT : 4 ≤ T) (t : Text) :
    (blen t < T → tokenDebugText T (T - 4) T t = some t) ∧
    (T ≤ blen t → ∃ pre, tokenDebugText T (T - 4) T t = some (pre ++ " ...".toList) ∧ pre <+: t ∧
        T - 4 ≤ blen pre ∧ blen pre < T) := by
  obtain ⟨m, rfl⟩ := Nat.exists_eq_add_of_le' hT
  simp only [Nat.add_sub_cancel]
  refine ⟨fun h => if_pos h, fun h => ?_⟩
  rw [tokenDebugText, if_neg (Nat.not_lt.mpr h), Nat.add_sub_cancel_left]
  obtain ⟨i, h1, h2, h3⟩ := boundary_window t m (Nat.le_trans (Nat.le_succ _) h)
  exact abbrevGo_total t m 4 ⟨i, h1, Nat.lt_succ_of_le h2, h3⟩

/-- **instantiation** with the threshold and window extracted from `SyntaxToken::write_debug` -/
theorem token_debug_total_impl (t : Text) :
    ∃ shown, tokenDebugText SourceFacts.debugAbbrevThreshold SourceFacts.debugWindowLo SourceFacts.debugWindowHi t = some shown := by
  have e1 : SourceFacts.debugWindowLo = SourceFacts.debugAbbrevThreshold - 4 := by decide
  have e2 : SourceFacts.debugWindowHi = SourceFacts.debugAbbrevThreshold := by decide
  have e3 : 4 ≤ SourceFacts.debugAbbrevThreshold := by decide
  rw [e1, e2]
  have := token_debug_total SourceFacts.debugAbbrevThreshold e3 t
  by_cases h : blen t < SourceFacts.debugAbbrevThreshold
  · exact ⟨t, this.1 h⟩
  · obtain ⟨pre, hp, _⟩ := this.2 (by omega)
    exact ⟨_, hp⟩

/-! ### display = text; recursive debug = one line per element, in source order, indented by depth -/

mutual
/-- the token leaves of a sub-tree with their positions, in source order -/
def leaves (p : Path) : Green → List (Path × Green)
  | .tok i k key l => [(p, .tok i k key l)]
  | .node _ _ _ _ cs => leavesL p 0 cs
def leavesL (p : Path) (i : Nat) : List Green → List (Path × Green)
  | [] => []
  | c :: cs => leaves (p ++ [i]) c ++ leavesL p (i + 1) cs
end

mutual
/-- all elements of a sub-tree with their positions and depths, in preorder -/
def elems (p : Path) (d : Nat) : Green → List (Path × Nat × Green)
  | .tok i k key l => [(p, d, .tok i k key l)]
  | .node i k l h cs => (p, d, .node i k l h cs) :: elemsL p 0 (d + 1) cs
def elemsL (p : Path) (i : Nat) (d : Nat) : List Green → List (Path × Nat × Green)
  | [] => []
  | c :: cs => elems (p ++ [i]) d c ++ elemsL p (i + 1) d cs
end

theorem enters_append (a b : List WE) : enters (a ++ b) = enters a ++ enters b := by
  induction a with
  | nil => rfl
  | cons e es ih => cases e <;> simp [enters, ih]

mutual
/-- the `Enter` events of the recursive preorder are exactly the elements of the sub-tree -/
theorem enters_pre (p : Path) (d : Nat) : (t : Green) → enters (pre p t) = (elems p d t).map (·.1)
  | .tok .. => by simp [pre, enters, elems]
  | .node _ _ _ _ cs => by
    simp only [pre, enters, elems, List.map_cons]
    rw [enters_append, enters_preL p 0 (d + 1) cs]
    simp [enters]
theorem enters_preL (p : Path) (i d : Nat) : (cs : List Green) → enters (preL p i cs) = (elemsL p i d cs).map (·.1)
  | [] => rfl
  | c :: cs => by
    simp only [preL, elemsL, List.map_append]
    rw [enters_append, enters_pre (p ++ [i]) d c, enters_preL p (i + 1) d cs]
end

mutual
/-- every listed element is the green element at its position -/
theorem elems_get (g : Green) (p : Path) (d : Nat) : (t : Green) → Green.get g p = some t →
    ∀ x ∈ elems p d t, Green.get g x.1 = some x.2.2
  | .tok i k key l, hg, x, hx => by simp [elems] at hx; subst hx; exact hg
  | .node i k l h cs, hg, x, hx => by
    simp only [elems, List.mem_cons] at hx
    rcases hx with rfl | hx
    · exact hg
    · exact elemsL_get g p 0 (d + 1) (.node i k l h cs) hg cs (by simp [Green.children]) x hx
theorem elemsL_get (g : Green) (p : Path) (i d : Nat) (t : Green) (hg : Green.get g p = some t) :
    (cs : List Green) → t.children.drop i = cs → ∀ x ∈ elemsL p i d cs, Green.get g x.1 = some x.2.2
  | [], _, x, hx => by simp [elemsL] at hx
  | c :: cs, hcs, x, hx => by
    obtain ⟨hc, hdrop⟩ := drop_eq_cons hcs
    simp only [elemsL, List.mem_append] at hx
    rcases hx with hx | hx
    · exact elems_get g (p ++ [i]) d c (get_child g p t hg i c hc) x hx
    · exact elemsL_get g p (i + 1) d t hg cs hdrop x hx
end

/-- **the recursive debug form lists every element of the sub-tree once, in source order** (the
    positions entered are exactly `elems`), through the modelled iterator -/
theorem debug_rec_positions (r : Red) (hcl : Closed r) (p : Path) (t : Green) (hm : Mat r p) (ht : r.green p = some t) :
    enters (r.preorderWithTokens p).1 = (elems p 0 t).map (·.1) := by
  rw [(preorderWithTokens_spec r hcl p t hm ht).1, enters_pre p 0 t]

/-- `debugRecGo` abstracted over the line printer -/
def levelGo {α : Type} (f : Path → Nat → Option α) : List WE → Nat → Option (List α)
  | [], level => if level = 0 then some [] else none
  | .enter p :: es, level =>
    match f p level, levelGo f es (level + 1) with
    | some l, some ls => some (l :: ls)
    | _, _ => none
  | .leave _ :: es, level => if level = 0 then none else levelGo f es (level - 1)

def collect {α : Type} (f : Path → Nat → Option α) : List (Path × Nat × Green) → Option (List α)
  | [] => some []
  | (p, d, _) :: xs =>
    match f p d, collect f xs with
    | some l, some ls => some (l :: ls)
    | _, _ => none

theorem collect_append {α : Type} (f : Path → Nat → Option α) (a b : List (Path × Nat × Green)) :
    collect f (a ++ b) = (match collect f a, collect f b with | some x, some y => some (x ++ y) | _, _ => none) := by
  induction a with
  | nil => simp [collect]; cases collect f b <;> simp
  | cons x xs ih =>
    obtain ⟨p, d, g⟩ := x
    simp only [List.cons_append, collect, ih]
    cases f p d <;> cases collect f xs <;> cases collect f b <;> simp

theorem debugRecGo_eq (cfg : Cfg) (I : Interner) (win : Nat × Nat × Nat) (r : Red) (es : List WE) (level : Nat) :
    debugRecGo cfg I win r es level = levelGo (fun p d => debugLine cfg I win r p d) es level := by
  induction es generalizing level with
  | nil => rfl
  | cons e es ih =>
    cases e with
    | enter p =>
      simp only [debugRecGo, levelGo, ih]
      cases debugLine cfg I win r p level <;> cases levelGo (fun p d => debugLine cfg I win r p d) es (level + 1) <;> rfl
    | leave p => simp only [debugRecGo, levelGo, ih]

mutual
/-- the level counter of `write_debug`: over the preorder of a sub-tree entered at level `L`, each
    element is printed at `L + its depth in the sub-tree`, and the level is back at `L` afterwards -/
theorem levels_pre (f : Path → Nat → Option α) (p : Path) (L : Nat) : (t : Green) → (rest : List WE) →
    levelGo f (pre p t ++ rest) L =
      (match collect f (elems p L t), levelGo f rest L with
       | some a, some b => some (a ++ b)
       | _, _ => none)
  | .tok i k key l, rest => by
    simp only [pre, elems, List.cons_append, List.nil_append, levelGo, collect]
    cases f p L <;> simp
    cases levelGo f rest L <;> simp
  | .node i k l h cs, rest => by
    simp only [pre, elems, List.cons_append, levelGo, collect, List.append_assoc]
    rw [levels_preL f p 0 (L + 1) cs]
    simp only [List.cons_append, List.nil_append, levelGo, Nat.add_one_ne_zero, ↓reduceIte, Nat.add_sub_cancel]
    cases f p L <;> cases collect f (elemsL p 0 (L + 1) cs) <;> cases levelGo f rest L <;> simp
theorem levels_preL (f : Path → Nat → Option α) (p : Path) (i L : Nat) : (cs : List Green) → (rest : List WE) →
    levelGo f (preL p i cs ++ rest) L =
      (match collect f (elemsL p i L cs), levelGo f rest L with
       | some a, some b => some (a ++ b)
       | _, _ => none)
  | [], rest => by simp [preL, elemsL, collect]; cases levelGo f rest L <;> simp
  | c :: cs, rest => by
    simp only [preL, elemsL, List.append_assoc]
    rw [levels_pre f (p ++ [i]) L c, levels_preL f p (i + 1) L cs, collect_append]
    cases collect f (elems (p ++ [i]) L c) <;> cases collect f (elemsL p (i + 1) L cs) <;> cases levelGo f rest L <;> simp
end
/-- **recursive debug**: one line per element of the sub-tree, in source order, each at the depth
    of its element (2 spaces per level in the output), and the final `assert_eq!(level, 0)` holds:
    the only way for the recursive form to panic is a panic of a single line (none can: C02 ranges
    exist for materialised elements, `token_debug_total`). -/
theorem debug_lines (cfg : Cfg) (I : Interner) (win : Nat × Nat × Nat) (r : Red) (hcl : Closed r) (p : Path) (t : Green)
    (hm : Mat r p) (ht : r.green p = some t) :
    (Red.debugRec cfg I win r p).1 =
      collect (fun q d => debugLine cfg I win (r.preorderWithTokens p).2 q d) (elems p 0 t) := by
  simp only [Red.debugRec]
  rw [debugRecGo_eq, (preorderWithTokens_spec r hcl p t hm ht).1]
  have := levels_pre (fun q d => debugLine cfg I win (r.preorderWithTokens p).2 q d) p 0 t []
  simp only [List.append_nil] at this
  rw [this]
  simp only [levelGo, ↓reduceIte]
  cases collect (fun q d => debugLine cfg I win (r.preorderWithTokens p).2 q d) (elems p 0 t) <;> simp

/-! ### display = text -/

theorem appendOpt_nil (a : Option Text) : appendOpt a (some []) = a := by
  cases a <;> simp [appendOpt]

theorem nil_appendOpt (a : Option Text) : appendOpt (some []) a = a := by
  cases a <;> rfl

theorem appendOpt_assoc (a b c : Option Text) : appendOpt (appendOpt a b) c = appendOpt a (appendOpt b c) := by
  cases a <;> cases b <;> cases c <;> simp [appendOpt]

/-- concatenated texts of a list of token leaves (`none` if some token does not resolve) -/
def leafTexts (cfg : Cfg) (I : Interner) : List (Path × Green) → Option Text
  | [] => some []
  | (_, g) :: xs => appendOpt (tokenText cfg I g) (leafTexts cfg I xs)

theorem leafTexts_append (cfg : Cfg) (I : Interner) (a b : List (Path × Green)) :
    leafTexts cfg I (a ++ b) = appendOpt (leafTexts cfg I a) (leafTexts cfg I b) := by
  induction a with
  | nil => exact (nil_appendOpt _).symm
  | cons x xs ih => rw [List.cons_append, leafTexts, leafTexts, ih, appendOpt_assoc]

mutual
/-- the leaves' texts concatenate to the text of the (well-formed) sub-tree -/
theorem leafTexts_leaves (cfg : Cfg) (I : Interner) (p : Path) : (t : Green) → GWf cfg I t →
    leafTexts cfg I (leaves p t) = (resolveG cfg I t).map Tree.text
  | .tok i k key l, hw => by
    simp only [leaves, leafTexts]
    cases key with
    | none =>
      simp only [GWf] at hw
      obtain ⟨st, hs, _⟩ := hw
      simp [tokenText, resolveG, hs, Tree.text, appendOpt]
    | some key =>
      simp only [GWf] at hw
      obtain ⟨hn, s, hs, _⟩ := hw
      simp [tokenText, resolveG, hn, hs, Tree.text, appendOpt]
  | .node i k l h cs, hw => by
    simp only [GWf] at hw
    simp only [leaves, resolveG, Option.map_map]
    rw [leafTexts_leavesL cfg I p 0 cs hw.2.2]
    cases resolveL cfg I cs <;> simp [Tree.text]
theorem leafTexts_leavesL (cfg : Cfg) (I : Interner) (p : Path) (i : Nat) : (cs : List Green) → GWfL cfg I cs →
    leafTexts cfg I (leavesL p i cs) = (resolveL cfg I cs).map Tree.textL
  | [], _ => by simp [leavesL, leafTexts, resolveL, Tree.textL]
  | c :: cs, hw => by
    simp only [leavesL, leafTexts_append, leafTexts_leaves cfg I (p ++ [i]) c hw.1, leafTexts_leavesL cfg I p (i + 1) cs hw.2, resolveL]
    cases resolveG cfg I c <;> cases resolveL cfg I cs <;> simp [Tree.textL, appendOpt]
end

mutual
/-- filtering the elements of a sub-tree for tokens gives its leaves -/
theorem elems_tokens (p : Path) (d : Nat) : (t : Green) →
    ((elems p d t).filter (fun x => !x.2.2.isNode)).map (fun x => (x.1, x.2.2)) = leaves p t
  | .tok .. => by simp [elems, leaves, Green.isNode]
  | .node _ _ _ _ cs => by
    simp only [elems, leaves, List.filter_cons, Green.isNode, Bool.not_true, Bool.false_eq_true, ↓reduceIte]
    exact elemsL_tokens p 0 (d + 1) cs
theorem elemsL_tokens (p : Path) (i d : Nat) : (cs : List Green) →
    ((elemsL p i d cs).filter (fun x => !x.2.2.isNode)).map (fun x => (x.1, x.2.2)) = leavesL p i cs
  | [] => rfl
  | c :: cs => by
    simp only [elemsL, leavesL, List.filter_append, List.map_append, elems_tokens (p ++ [i]) d c, elemsL_tokens p (i + 1) d cs]
end

/-- `write_display` accumulates from the left, `leafTexts` from the right -/
theorem foldl_appendOpt {α : Type} (g : α → Option Text) (acc : Option Text) (qs : List α) :
    qs.foldl (fun a q => appendOpt a (g q)) acc = appendOpt acc (qs.foldr (fun q a => appendOpt (g q) a) (some [])) := by
  induction qs generalizing acc with
  | nil => exact (appendOpt_nil acc).symm
  | cons q qs ih => rw [List.foldl_cons, ih, List.foldr_cons, appendOpt_assoc]

/-- **displaying a node produces exactly its text** (and displaying a token its text): the texts of
    the tokens entered by the preorder iterator, concatenated, are the text of the sub-tree -/
theorem display_text (cfg : Cfg) (I : Interner) (r : Red) (hcl : Closed r) (p : Path) (t : Green)
    (hm : Mat r p) (ht : r.green p = some t) (hw : GWf cfg I t) :
    (Red.display cfg I r p).1 = (resolveG cfg I t).map Tree.text := by
  rw [← leafTexts_leaves cfg I p t hw, Red.display]
  split
  · next htok =>
    cases t with
    | node _ _ _ _ _ => simp [Red.isToken, ht, Green.isNode] at htok
    | tok i k key l =>
      rw [ht, leaves, leafTexts, leafTexts, appendOpt_nil]; rfl
  · have hspec := preorderWithTokens_spec r hcl p t hm ht
    simp only [Red.descendantsWithTokens]
    rw [hspec.1, enters_pre p 0 t, foldl_appendOpt, nil_appendOpt, ← elems_tokens p 0 t]
    -- every listed position resolves to its listed green element in the new state
    have hget : ∀ x ∈ elems p 0 t, (r.preorderWithTokens p).2.green x.1 = some x.2.2 := fun x hx => by
      unfold Red.green; rw [hspec.2.1]; exact elems_get r.root p 0 t ht x hx
    generalize (r.preorderWithTokens p).2 = r' at hget
    generalize elems p 0 t = xs at hget
    induction xs with
    | nil => rfl
    | cons x xs ih =>
      have hx := hget x List.mem_cons_self
      have ih' := ih fun y hy => hget y (List.mem_cons_of_mem _ hy)
      simp only [List.map_cons, List.filter_cons, Red.isToken, hx]
      cases x.2.2.isNode with
      | true => exact ih'
      | false =>
        simp only [Bool.not_false, ↓reduceIte, List.foldr_cons, hx, Option.bind_some, List.map_cons, leafTexts, ih']

/-! ### non-vacuity: a 4-byte character straddling the whole probe window start -/
example : tokenDebugText 25 21 25 ("aaaaaaaaaaaaaaaaaaaa😀😀".toList) = some ("aaaaaaaaaaaaaaaaaaaa😀 ...".toList) := by
  decide +kernel

end Cst.C19
