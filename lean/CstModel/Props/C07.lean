/-
  C07 — Concurrent use through the safe API is free of data races.

  Model: `Model/MemModel` — release/acquire happens-before for the tree's reference count with vector
  clocks, any number of threads, every interleaving of clone / drop / send / access.  The orderings
  are the ones the source uses (extracted).  Invariant: `Proofs/MemModel`.
-/
import CstModel.Proofs.MemModel
import CstModel.Proofs.MemSlots
import CstModel.Generated.SourceFacts
namespace Cst.C07
open Cst.Mem

/-- the orderings of the counter's RMWs, as extracted from `Clone` / `Drop` of `SyntaxNode` -/
def ords : Ords :=
  ⟨isRel SourceFacts.cloneOrdering, isAcq SourceFacts.cloneOrdering,
   isRel SourceFacts.dropOrdering, isAcq SourceFacts.dropOrdering⟩

/-- **instantiation**: the decrement releases and acquires; every access to the counter is a
    read-modify-write (so every release heads an unbroken release sequence); clone adds one, drop
    subtracts one and tears down exactly when it saw 1; the loser's compensations are RMWs too -/
theorem facts_ok :
    ords.decRel = true ∧ ords.decAcq = true ∧ SourceFacts.allRefCountOpsAreRmw = true ∧
    SourceFacts.cloneAmount = 1 ∧ SourceFacts.dropAmount = 1 ∧ SourceFacts.teardownWhenPrev = 1 ∧
    SourceFacts.loserNodeOrdering ≤ 4 ∧ SourceFacts.loserTokenOrdering ≤ 4 := by decide

/-- **the teardown races with nothing**: in every reachable state — any number of threads, any
    interleaving of cloning, dropping, handing handles to other threads and accessing the tree — every
    access any other thread ever made happens-before the teardown's accesses (writes, frees) -/
theorem teardown_race_free (s : Sys) (h : Reachable ords s) : s.raced = false :=
  (inv_reachable facts_ok.1 facts_ok.2.1 h).noRace

/-- the ordering of the *increment* is irrelevant (it may even be relaxed, as in `std::sync::Arc`) -/
theorem race_free_any_inc_ordering (O : Ords) (hr : O.decRel = true) (ha : O.decAcq = true) (s : Sys)
    (h : Reachable O s) : s.raced = false :=
  (inv_reachable hr ha h).noRace

/-- **spelt out**: when the tree is torn down, every recorded access of another thread is ordered before
    the tearing thread's clock — there is a happens-before edge (release sequence of the counter, or
    the hand-over of a handle) from each access to the teardown -/
theorem accesses_before_teardown (s s' : Sys) (h : Reachable ords s) (t : Nat)
    (hs : step ords s t .drop = some s') (ht : s'.torn = true) (hb : s.torn = false) :
    ∀ a ∈ s.acc, ordered s' t a = true := by
  have hinv := inv_reachable facts_ok.1 facts_ok.2.1 h
  unfold step at hs
  split at hs
  · cases hs
  rename_i n hn
  obtain ⟨h1, hs⟩ := Option.ite_none_right_eq_some.mp hs
  split at hs <;> cases hs
  · rename_i hrc
    exact fun a ha => ordered_iff.mpr (sole_holder_ordered hinv hb hn h1 hrc _
      (rmw_C_mono { s with rc := s.rc - 1, owned := s.owned.set t (n - 1) } t ords.decRel ords.decAcq t) (rmw_acquire _ t _) a ha)
  · exact absurd (hb.symm.trans ht) nofun

/-- no handle, no access; after the teardown nobody has a handle -/
theorem no_access_after_teardown (s : Sys) (h : Reachable ords s) (ht : s.torn = true) (t : Nat) :
    step ords s t .access = none := by
  have hinv := inv_reachable facts_ok.1 facts_ok.2.1 h
  unfold step
  cases hn : s.owned[t]? with
  | none => rfl
  | some n =>
    have := torn_blocks hinv ht t n hn
    subst this
    simp

/-! ### the child slots: locks, and references that outlive the lock -/

/-- **instantiation**: `read` takes the slot's lock shared, `try_write` and the teardown take it
    exclusively, a candidate is installed only into an empty slot, and these three are the only places
    that touch a slot cell -/
theorem slot_facts :
    SourceFacts.slotReadUnderReadLock = true ∧ SourceFacts.slotWriteUnderWriteLock = true ∧
    SourceFacts.teardownUnderWriteLock = true ∧ SourceFacts.slotInstallOnlyIfEmpty = true ∧
    SourceFacts.slotCellAccessSites = 3 ∧ SourceFacts.slotAssignments = 2 := by decide

/-- **no access to a child slot races** — for every interleaving of any number of threads cloning,
    dropping and handing over handles, reading slots under the read lock, installing into empty slots
    or losing the race under the write lock, dereferencing elements through references obtained
    earlier (outside any lock), and the final teardown writing every slot: each access is ordered
    (lock clock, counter release sequence, hand-over) after every conflicting earlier access -/
theorem slot_accesses_race_free (s : MemS.Sys) (h : MemS.Reachable ords s) : s.raced = false :=
  (MemS.inv_reachable facts_ok.1 facts_ok.2.1 h).noRace

/-- a reference into a slot is only ever used by a thread that has synchronised with the write that
    filled the slot -/
theorem reference_sees_install (s : MemS.Sys) (h : MemS.Reachable ords s) (ht : s.torn = false) (t sl : Nat)
    (hk : sl ∈ s.knows t) :
    s.slots[sl]? = some true ∧ ∀ a ∈ s.acc, a.loc = sl → a.wr = true → a.thr = t ∨ a.ep ≤ s.C t a.thr :=
  (MemS.inv_reachable facts_ok.1 facts_ok.2.1 h).known ht t sl hk

/-- creation race on slot 0 between threads 0 and 1 (1 wins), thread 1 hands a handle to thread 2 which
    uses the element without ever taking the lock; everybody drops, thread 0 last -/
def slotScenario (O : Ords) : Option MemS.Sys := do
  let s ← MemS.step O (MemS.Sys.init [1, 0, 0] 1) 0 .clone
  let s ← MemS.step O s 0 (.send 1)
  let s ← MemS.step O s 0 (.rdSlot 0)          -- miss
  let s ← MemS.step O s 1 (.rdSlot 0)          -- miss
  let s ← MemS.step O s 1 (.wrSlot 0)          -- installs
  let s ← MemS.step O s 0 (.loseSlot 0)        -- loses
  let s ← MemS.step O s 1 .clone
  let s ← MemS.step O s 1 (.send 2)
  let s ← MemS.step O s 2 (.useElem 0)
  let s ← MemS.step O s 2 .drop
  let s ← MemS.step O s 1 (.useElem 0)
  let s ← MemS.step O s 1 .drop
  MemS.step O s 0 .drop

example : (match slotScenario ords with
    | some s => s.torn && !s.raced && s.acc.length == 7
    | none => false) = true := by decide
/-- with a relaxed decrement the same history races (the teardown's writes against the uses) -/
theorem slot_scenario_relaxed_races :
    (match slotScenario ⟨true, true, false, false⟩ with
     | some s => s.torn && s.raced
     | none => false) = true := by decide

/-! ### the per-node data cell

  `slot_accesses_race_free` quantifies over `MemS.Reachable`, whose actions include `dataRd` / `dataWr`: reads and any
  number of writes of a data cell, each inside the cell's own reader/writer lock, interleaved arbitrarily with everything
  else and followed by the teardown.  What makes the cell fit that model is extracted from the source. -/

/-- the value lives *inside* its lock (safe Rust cannot reach it otherwise), every operation is one critical section,
    writers take the exclusive lock and the reader the shared one -/
theorem data_lock_facts : SourceFacts.dataSlotInsideLock = true ∧ SourceFacts.dataOneSectionPerOp = true ∧
    SourceFacts.dataSetW = true ∧ SourceFacts.dataTrySetW = true ∧ SourceFacts.dataClearW = true ∧
    SourceFacts.dataGetW = false := by decide

/-- three threads share a node: set / get / try_set / clear in an interleaved order, then everybody drops; location 1 is
    the data cell (its slot flag stays `false`), slot 0 is an ordinary child slot -/
def dataScenario (O : Ords) : Option MemS.Sys := do
  let s ← MemS.step O (MemS.Sys.init [1, 0, 0] 2) 0 .clone
  let s ← MemS.step O s 0 (.send 1)
  let s ← MemS.step O s 0 .clone
  let s ← MemS.step O s 0 (.send 2)
  let s ← MemS.step O s 1 (.dataWr 1)          -- set_data
  let s ← MemS.step O s 2 (.dataRd 1)          -- get_data
  let s ← MemS.step O s 0 (.dataWr 1)          -- try_set_data
  let s ← MemS.step O s 2 (.rdSlot 0)
  let s ← MemS.step O s 2 (.wrSlot 0)
  let s ← MemS.step O s 2 (.dataWr 1)          -- clear_data
  let s ← MemS.step O s 1 (.dataRd 1)
  let s ← MemS.step O s 1 .drop
  let s ← MemS.step O s 2 .drop
  MemS.step O s 0 .drop

example : (match dataScenario ords with
    | some s => s.torn && !s.raced && s.acc.length == 9
    | none => false) = true := by decide

/-- with a relaxed decrement the teardown races with the data accesses of the other threads -/
theorem data_scenario_relaxed_races :
    (match dataScenario ⟨true, true, false, false⟩ with
     | some s => s.torn && s.raced
     | none => false) = true := by decide

/-- the handles may only be on several threads when the data and the resolver are thread safe
    (`C08.markers_sound`): the facts that theorem is instantiated with -/
theorem marker_facts :
    SourceFacts.nodeSendNeedsDSend = true ∧ SourceFacts.nodeSendNeedsDSync = true ∧
    SourceFacts.nodeSyncNeedsDSend = true ∧ SourceFacts.nodeSyncNeedsDSync = true ∧
    SourceFacts.ctorNeedsRSend = true ∧ SourceFacts.ctorNeedsRSync = true ∧
    SourceFacts.otherUnsafeMarkerImpls = 0 ∧ SourceFacts.greenTokenMarkersUnconditional = true := by decide

/-! ### why the orderings matter: weaker decrements race -/

/-- thread 0 clones and hands the copy to thread 1, which reads the tree and drops; thread 0 drops last -/
def scenario (O : Ords) : Option Sys := do
  let s ← step O (Sys.init [1]) 0 .spawn
  let s ← step O s 0 .clone
  let s ← step O s 0 (.send 1)
  let s ← step O s 1 .access
  let s ← step O s 1 .drop
  step O s 0 .drop

def racedIn (o : Option Sys) : Bool :=
  match o with
  | some s => s.torn && s.raced
  | none => false

/-- a relaxed decrement: the reader's access is unordered with the teardown -/
theorem relaxed_dec_races : racedIn (scenario ⟨true, true, false, false⟩) = true := by decide
/-- release without acquire on the final decrement is not enough -/
theorem release_only_dec_races : racedIn (scenario ⟨true, true, true, false⟩) = true := by decide
/-- acquire without release is not enough either -/
theorem acquire_only_dec_races : racedIn (scenario ⟨true, true, false, true⟩) = true := by decide

/-! ### non-vacuity: the same scenario with the extracted orderings tears down without a race -/
example : (match scenario ords with
    | some s => s.torn && !s.raced && s.acc.length == 2 && s.rc == 0
    | none => false) = true := by decide

end Cst.C07
