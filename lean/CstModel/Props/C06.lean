/-
  C06 — A tree is reclaimed exactly once, when its last handle goes away.

  Model: `Model/Conc` — any number of threads cloning, sending, dropping handles and racing to
  materialise children; teardown is the transition taken by the decrement that sees 1.
  Invariant and its inductiveness: `Proofs/Conc` (`inv_step` needs the extracted compensation
  amounts `compNode = 2`, `compTok = 1`).
  Heap effects proper (that `Box::from_raw` frees, that nothing else points into a freed block) are
  tied by the allocation hooks and by Miri, not by the model.
-/
import CstModel.Proofs.Conc
import CstModel.Proofs.Teardown
import CstModel.Generated.SourceFacts
namespace Cst.C06

open Conc

/-- the compensation amounts of the current source -/
def facts : Facts := ⟨SourceFacts.loserNodeComp, SourceFacts.loserTokenComp⟩

theorem facts_ok : facts.compNode = 2 ∧ facts.compTok = 1 := by decide

/-- the rest of the protocol as the model assumes it: handles are counted one by one, and the drop
    that sees the value 1 tears the tree down -/
theorem protocol_facts : SourceFacts.cloneAmount = 1 ∧ SourceFacts.dropAmount = 1 ∧ SourceFacts.teardownWhenPrev = 1 := by
  decide

/-- "stays valid as long as any handle exists" is meant in the language's memory model: the teardown must
    be ordered after every other thread's uses, which needs the decrement to release and to acquire
    (`C07.teardown_race_free` is the theorem; here only the fact it rests on) -/
theorem ordering_facts :
    (SourceFacts.dropOrdering == 3 || SourceFacts.dropOrdering == 4) = true ∧ SourceFacts.allRefCountOpsAreRmw = true := by
  decide

/-- every reachable state of the implementation's protocol satisfies the invariant -/
theorem inv_always (nslots nthreads owned : Nat) (hpos : 1 ≤ nthreads * owned) (s : Sys)
    (hr : Reachable facts (Sys.init nslots nthreads owned) s) : Inv s :=
  inv_reachable facts facts_ok.1 facts_ok.2 _ s (inv_init nslots nthreads owned hpos) hr

/-- **never earlier**: as long as any thread owns a handle (to any node or token — each counts one),
    the tree has not been torn down -/
theorem no_premature_teardown (s : Sys) (hI : Inv s) (i : Nat) (t : Thr) (ht : s.thr[i]? = some t)
    (hown : 1 ≤ t.owned) : s.torn = 0 := alive_of_owns hI ht hown

/-- **never twice**: teardown happens at most once -/
theorem teardown_at_most_once (s : Sys) (hI : Inv s) : s.torn ≤ 1 := hI.tornLe

/-- **never leaked**: once every handle has been dropped and nobody is in the middle of an
    operation, the tree has been torn down — the counter reaches zero only in the step that tears
    down, so "all dropped but still alive" is unreachable -/
theorem all_dropped_torn (s : Sys) (hI : Inv s) (hall : sumOwned s.thr = 0) (hidle : sumOwed s.thr = 0) : s.torn = 1 := by
  have h1 := hI.tornLe
  by_cases h : s.torn = 0
  · have := hI.rcEq h
    have := hI.rcPos h
    omega
  · omega

/-- after teardown nothing is left: no thread owns a handle or is inside an operation, and only
    `spawn` is enabled — nothing touches the tree any more -/
theorem after_teardown_quiet (s : Sys) (hI : Inv s) (ht : s.torn = 1) (i : Nat) (t : Thr) (h : s.thr[i]? = some t) :
    t.owned = 0 ∧ t.pc = .idle := torn_all_idle s hI ht i t h

/-- **the loser of a creation race never tears the tree down**: both decrements on its path see a
    counter of at least 2 -/
theorem loser_never_tears_down (s : Sys) (hI : Inv s) (h0 : s.torn = 0) (i : Nat) (t : Thr) (ht : s.thr[i]? = some t)
    (hp : (∃ sl n c, t.pc = .added sl n c) ∨ (∃ sl c, t.pc = .dropped1 sl c)) : 2 ≤ s.rc := by
  have h1 := hI.rcEq h0
  have h2 := owned_le_sum s.thr i t ht
  have h3 := owed_le_sum s.thr i t ht
  have hb : t.owned ≥ 1 := hI.busyOwns t (List.mem_of_getElem? ht) (by rcases hp with ⟨_, _, _, e⟩ | ⟨_, _, e⟩ <;> simp [e])
  have hw : 1 ≤ owed t.pc := by
    rcases hp with ⟨sl, n, c, e⟩ | ⟨sl, c, e⟩
    · rw [e]; cases n <;> simp [owed]
    · rw [e]; simp [owed]
  omega

/-- the amounts are **necessary**: with a compensation of 1 for a lost node the second decrement of
    the loser path can see 1 while the loser still owns its handle — a premature teardown -/
theorem comp_one_is_unsound :
    let F : Facts := ⟨1, 1⟩
    let s0 : Sys := { rc := 1, torn := 0, slots := [some (true, 0)], blocks := [0, 1], freed := [], nextId := 2,
                      thr := [⟨1, .holdW 0 true 1⟩] }
    (match step F s0 0 .fetchAdd with
     | some s1 => (match step F s1 0 .dropCand with
        | some s2 => (match step F s2 0 .freeCand with
          | some s3 => some (s3.torn, (s3.thr.map (·.owned)))
          | none => none)
        | none => none)
     | none => none) = some (1, [1]) := by decide

/-! ### the recursive teardown (`Model/Teardown`): what the one atomic `dec` step of `Model/Conc` stands for -/

open Teardown in
/-- **every installed block is released exactly once, children before parents**: the frees of a teardown are the
    node blocks of the tree of installed elements in post-order; with one block per slot (C05) each occurs once -/
theorem teardown_frees_each_once (ks : ITs) (hn : (nodesOfL ks).Nodup) :
    (tearRoot ks).filterMap Ev.freed = nodesOfL ks ∧
    ∀ s, ((tearRoot ks).filterMap Ev.freed).count s = if s ∈ nodesOfL ks then 1 else 0 :=
  ⟨tearRoot_frees ks, tearRoot_frees_count ks hn⟩

open Teardown in
/-- **nothing is freed twice or dereferenced after it was freed** inside the teardown, the root block and the count
    cell are released last, and nothing follows -/
theorem teardown_safe (ks : ITs) (hn : (nodesOfL ks).Nodup) : safe [] (tearRoot ks) = true := tearRoot_safe ks hn

open Teardown in
/-- **the counter during the teardown**: its decrements are the `teardownDecs` of `Model/Conc` (two per installed
    node, one per installed token, one for the root copy), and none of them sees 1 again: no second teardown -/
theorem teardown_counter (ks : ITs) :
    (tearRoot ks).count .dec = 2 * (nodesOfL ks).length + nToksL ks + 1 ∧ ∀ p, p ∈ prevs 0 (tearRoot ks) → p ≠ 1 :=
  ⟨tearRoot_decs ks, fun p h => no_second_teardown ks p h⟩

/-- the shape the model of the teardown was read off from is the shape of the source: all slots in order, under the
    slot's write lock, the child's sub-tree first, then the slot is cleared, then the child's block is released; the root
    block and the count cell after everything else -/
theorem teardown_shape_facts : SourceFacts.teardownLoopsAllSlots = true ∧ SourceFacts.teardownChildrenFirst = true ∧
    SourceFacts.teardownRootLast = true ∧ SourceFacts.teardownUnderWriteLock = true := by decide

open Teardown in
/-- non-vacuity: a tree with a nested node, an empty slot and tokens -/
example : let ks := ITs.full (.node 0 (.full .tok (.skip (.full (.node 1 .nil) .nil)))) (.full .tok .nil)
    (nodesOfL ks).Nodup ∧ (tearRoot ks).filterMap Ev.freed = [1, 0] ∧ (tearRoot ks).count .dec = 7 := by decide

end Cst.C06
