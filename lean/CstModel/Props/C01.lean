/-
  C01 — Built trees are lossless and structurally faithful.

  Model: `Model/Builder` (NodeCache + GreenNodeBuilder), `Model/Tree` (reference trees, their
  event streams, resolution of green trees).  The theorems hold for **every** child-hash
  function `H` (so also under arbitrary hash collisions), every static-text table, every interner
  state and every cache state satisfying `CacheInv` (which holds for the empty cache and is
  preserved by every build — so after any history; see C04).
  Helper lemmas: `Proofs/Green`, `Proofs/Builder`.
-/
import CstModel.Proofs.Builder
import CstModel.Generated.SourceFacts
namespace Cst.C01

/-- **Faithfulness.** For every tree `node k cs` whose static-kind tokens carry their static text,
    feeding its events to a builder over any invariant-respecting cache (with room for the new
    strings in the key space) succeeds, and the finished green tree resolves to exactly that tree:
    same nesting, order, kinds and token texts.  The stored length of the root is the byte length
    of the text, the cache invariant is kept and the interner only grew. -/
theorem build_faithful (cfg : Cfg) (hcmp : cfg.cmpChildren = true) (c : Cache) (hc : CacheInv cfg c)
    (k : Nat) (cs : List Tree) (hs : StaticOk cfg (.node k cs))
    (hcap : c.interner.strs.length + (Tree.node k cs).nTokens ≤ c.interner.cap) :
    ∃ g c', build cfg c (Tree.node k cs).events = .ok (g, c') ∧
      resolveG cfg c'.interner g = some (.node k cs) ∧
      g.len = blen (Tree.node k cs).text ∧
      CacheInv cfg c' ∧ c.interner.strs <+: c'.interner.strs := by
  obtain ⟨g, c', h, hres, hl, hinv, hp, _⟩ := build_tree hcmp hc k cs hs hcap
  exact ⟨g, c', h, hres, hl, hinv, hp⟩

theorem evTexts_append (cfg : Cfg) (xs ys : List Ev) : evTexts cfg (xs ++ ys) = evTexts cfg xs ++ evTexts cfg ys := by
  induction xs with
  | nil => rfl
  | cons e es ih => cases e <;> simp [evTexts, ih]

mutual
/-- the texts fed in by the events of a tree concatenate to the tree's text -/
theorem evTexts_events (cfg : Cfg) : (t : Tree) → (evTexts cfg t.events).flatten = t.text
  | .tok k s => by simp [Tree.events, evTexts, Tree.text]
  | .node k cs => by simp [Tree.events, evTexts, Tree.text, evTexts_append, evTexts_eventsL cfg cs]
theorem evTexts_eventsL (cfg : Cfg) : (ts : List Tree) → (evTexts cfg (Tree.eventsL ts)).flatten = Tree.textL ts
  | [] => rfl
  | t :: ts => by simp [Tree.eventsL, Tree.textL, evTexts_append, evTexts_events cfg t, evTexts_eventsL cfg ts]
end

/-- **Losslessness.** The concatenated text of the built tree equals the concatenation of the token
    texts fed in, and the root's stored length is its byte length. -/
theorem build_text (cfg : Cfg) (hcmp : cfg.cmpChildren = true) (c : Cache) (hc : CacheInv cfg c)
    (k : Nat) (cs : List Tree) (hs : StaticOk cfg (.node k cs))
    (hcap : c.interner.strs.length + (Tree.node k cs).nTokens ≤ c.interner.cap) :
    ∃ g c' t, build cfg c (Tree.node k cs).events = .ok (g, c') ∧ resolveG cfg c'.interner g = some t ∧
      t.text = (evTexts cfg (Tree.node k cs).events).flatten ∧
      g.len = blen (evTexts cfg (Tree.node k cs).events).flatten := by
  obtain ⟨g, c', hb, hr, hl, _, _⟩ := build_faithful cfg hcmp c hc k cs hs hcap
  exact ⟨g, c', _, hb, hr, (evTexts_events cfg _).symm, by rw [evTexts_events]; exact hl⟩

/-- adding a static-kind token by kind alone or together with its (static) text is the same
    operation -/
theorem static_two_ways (cfg : Cfg) (b : Builder) (k : Nat) (st : Text) (h : cfg.staticText k = some st) :
    b.token cfg k st = b.staticToken cfg k := by
  rw [Builder.token_static h, Builder.staticToken_some h]; simp

/-- the configuration the driver runs: extracted threshold / comparison flag, real Fx hash under any
    mask, any static table, either build profile -/
def implCfg (statics : List (Nat × Text)) (mask : UInt32) (debug : Bool) : Cfg :=
  { statics := statics, H := fxChildHash mask, threshold := SourceFacts.childrenCacheThreshold,
    cmpChildren := SourceFacts.nodeCacheComparesChildren, debug := debug }

/-- **Instantiation** with the facts extracted from the current source: the node cache compares
    children on a hit, so faithfulness holds for the implementation's configuration — from an empty
    cache over a fresh interner, for every static table, hash mask and build profile. -/
theorem build_faithful_impl (statics : List (Nat × Text)) (mask : UInt32) (debug : Bool) (cap : Nat)
    (k : Nat) (cs : List Tree) (hs : StaticOk (implCfg statics mask debug) (.node k cs))
    (hcap : (Tree.node k cs).nTokens ≤ cap) :
    ∃ g c', build (implCfg statics mask debug) (Cache.empty (Interner.empty cap)) (Tree.node k cs).events = .ok (g, c') ∧
      resolveG (implCfg statics mask debug) c'.interner g = some (.node k cs) ∧
      g.len = blen (Tree.node k cs).text := by
  obtain ⟨g, c', h1, h2, h3, _, _⟩ :=
    build_faithful (implCfg statics mask debug) (by show SourceFacts.nodeCacheComparesChildren = true; decide) (Cache.empty (Interner.empty cap))
      (CacheInv.empty _ _) k cs hs (by simpa [Cache.empty, Interner.empty] using hcap)
  exact ⟨g, c', h1, h2, h3⟩

/-- A real 32-bit collision of the child hash (Fx model, no mask): two *different* one-token child
    lists with the same length — the reason a node-cache hit has to compare children. -/
theorem collision_witness :
    fxChildHash 0xFFFFFFFF [Green.tok 0 4 (some 0) 2] = fxChildHash 0xFFFFFFFF [Green.tok 1 568332233 (some 3) 2] := by
  decide

/-- the comparison is **necessary**: with a head-only lookup (`cmpChildren = false`) and colliding
    hashes the builder merges two different nodes — the built tree is not the events' tree. -/
theorem unfaithful_without_compare :
    let cfg : Cfg := { statics := [], H := fun _ => 0, threshold := 3, cmpChildren := false, debug := false }
    let t : Tree := .node 0 [.node 5 [.tok 4 ['a']], .node 5 [.tok 4 ['b']]]
    (match build cfg (Cache.empty (Interner.empty 10)) t.events with
     | .ok (g, c') => (resolveG cfg c'.interner g).map (Tree.beq t)
     | .error _ => none) = some false := by
  decide +kernel

/-! ### non-vacuity: the hypotheses are met by a concrete non-trivial tree, and the conclusion is
    observable by evaluation -/
example : StaticOk (implCfg [(12, ['+'])] 3 true) (.node 0 [.tok 12 ['+'], .node 1 [], .tok 10 ['é']]) := by
  simp [StaticOk, StaticOkL, StaticOkTok, implCfg, Cfg.staticText, List.lookup]
example :
    let cfg : Cfg := { statics := [], H := fun _ => 0, threshold := 3, cmpChildren := true, debug := false }
    let t : Tree := .node 0 [.node 5 [.tok 4 ['a']], .node 5 [.tok 4 ['b']]]
    (match build cfg (Cache.empty (Interner.empty 10)) t.events with
     | .ok (g, c') => (resolveG cfg c'.interner g).map (Tree.beq t)
     | .error _ => none) = some true := by
  decide +kernel

end Cst.C01
