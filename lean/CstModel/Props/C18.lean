/-
  C18 — Per-node data behaves like an atomic optional slot.

  Model: `Model/DataSlot` (lock acquisition, body steps and release are separate transitions; any
  number of threads; other threads may run between any two transitions).  Invariants: `Proofs/DataSlot`.
-/
import CstModel.Proofs.DataSlot
import CstModel.Generated.SourceFacts
namespace Cst.C18
open Cst.DataSlot

/-- the lock modes of the four operations, as extracted from the source -/
def facts : Facts :=
  ⟨SourceFacts.dataSetW, SourceFacts.dataTrySetW, SourceFacts.dataGetW, SourceFacts.dataClearW⟩

/-- **instantiation**: every mutating operation takes the write lock, every operation is one critical
    section, and the slot lives inside its lock -/
theorem facts_ok : facts.Ok ∧ SourceFacts.dataOneSectionPerOp = true ∧ SourceFacts.dataSlotInsideLock = true := by
  refine ⟨⟨?_, ?_, ?_⟩, ?_, ?_⟩ <;> decide

/-- the data handed out is shared between all threads that hold a handle (`Arc<D>` clones of one value):
    that is only sound because a tree can be on several threads only when `D` is `Send + Sync`
    (`C08.markers_sound`); here the facts that theorem is instantiated with -/
theorem data_sharing_facts :
    SourceFacts.nodeSendNeedsDSend = true ∧ SourceFacts.nodeSendNeedsDSync = true ∧
    SourceFacts.nodeSyncNeedsDSend = true ∧ SourceFacts.nodeSyncNeedsDSync = true ∧
    SourceFacts.otherUnsafeMarkerImpls = 0 := by decide

/-- **mutual exclusion**: in every reachable state a thread inside a writing operation is alone
    inside the slot's lock -/
theorem exclusion (n : Nat) (s : Sys) (h : Reachable facts n s) (i j : Nat) (pi pj : PC)
    (hi : s.pcs[i]? = some pi) (hj : s.pcs[j]? = some pj) (hne : i ≠ j) (hw : pi.writes facts = true) :
    pj.busy = false :=
  (lk_reachable facts_ok.1 h).excl i j pi pj hi hj hne hw

/-- **linearizability**: in every reachable state — after any interleaving of the lock, body and
    release steps of any number of threads — the results recorded so far are exactly those the
    sequential optional slot gives when the operations are applied one at a time in the order in which
    their bodies completed, and the slot holds what that sequential run leaves -/
theorem linearizable (n : Nat) (s : Sys) (h : Reachable facts n s) : specRun none s.hist = some s.cell :=
  (lk_reachable facts_ok.1 h).hist

/-- what a `try_set_data` saw when it looked at the slot is still true when it acts on it -/
theorem check_stays_valid (n : Nat) (s : Sys) (h : Reachable facts n s) (i v : Nat) (b : Bool)
    (hi : s.pcs[i]? = some (.checked v b)) : b = s.cell.isSome :=
  (lk_reachable facts_ok.1 h).chk i v b hi

/-! ### consequences of the sequential specification -/

theorem specRun_cons {c : Option Nat} {e : Entry} {h : List Entry} {c' : Option Nat}
    (hr : specRun c (e :: h) = some c') : (spec c e.2.1).2 = e.2.2 ∧ specRun (spec c e.2.1).1 h = some c' := by
  obtain ⟨i, r, res⟩ := e
  simp only [specRun] at hr
  split at hr
  · rename_i heq; exact ⟨heq, hr⟩
  · cases hr

def isArc : Entry → Bool
  | (_, _, .arc _) => true
  | _ => false

/-- on a non-empty slot every conditional set fails and gets its own value back -/
theorem tries_on_full (c : Option Nat) (hc : c.isSome = true) (tries : List Entry) (c' : Option Nat)
    (hr : specRun c tries = some c') (ht : ∀ e ∈ tries, ∃ v, e.2.1 = .trySet v) :
    c' = c ∧ ∀ e ∈ tries, ∃ v, e.2.1 = .trySet v ∧ e.2.2 = .back v := by
  induction tries with
  | nil => simp only [specRun] at hr; cases hr; exact ⟨rfl, by simp⟩
  | cons e rest ih =>
    obtain ⟨v, hv⟩ := ht e (by simp)
    obtain ⟨h1, h2⟩ := specRun_cons hr
    rw [hv] at h1 h2
    simp only [spec, hc, ↓reduceIte] at h1 h2
    obtain ⟨hc', hrest⟩ := ih h2 (fun e' he' => ht e' (by simp [he']))
    refine ⟨hc', ?_⟩
    intro e' he'
    simp only [List.mem_cons] at he'
    rcases he' with rfl | he'
    · exact ⟨v, hv, h1.symm⟩
    · exact hrest e' he'

/-- **of several conditional sets on an empty slot exactly one succeeds** (the first to complete) **and
    the others get their value back** -/
theorem one_try_set_wins (tries : List Entry) (c' : Option Nat) (hne : tries ≠ [])
    (hr : specRun none tries = some c') (ht : ∀ e ∈ tries, ∃ v, e.2.1 = .trySet v) :
    (tries.filter isArc).length = 1 ∧
    (∃ i v, tries.head? = some (i, .trySet v, .arc v) ∧ c' = some v) ∧
    (∀ e ∈ tries.tail, ∃ v, e.2.1 = .trySet v ∧ e.2.2 = .back v) := by
  cases tries with
  | nil => exact absurd rfl hne
  | cons e rest =>
    obtain ⟨v, hv⟩ := ht e (by simp)
    obtain ⟨h1, h2⟩ := specRun_cons hr
    rw [hv] at h1 h2
    simp only [spec, Option.isSome_none, Bool.false_eq_true, ↓reduceIte] at h1 h2
    obtain ⟨hc', hrest⟩ := tries_on_full (some v) rfl rest c' h2 (fun e' he' => ht e' (by simp [he']))
    obtain ⟨i, r, res⟩ := e
    simp only at hv h1
    subst hv
    subst h1
    refine ⟨?_, ⟨i, v, rfl, hc'⟩, hrest⟩
    have hnone : rest.filter isArc = [] := by
      rw [List.filter_eq_nil_iff]
      intro e' he'
      obtain ⟨w, _, hw⟩ := hrest e' he'
      obtain ⟨i', r', res'⟩ := e'
      simp only at hw
      subst hw
      simp [isArc]
    simp [List.filter_cons, isArc, hnone]

theorem specRun_split (c : Option Nat) (h1 h2 : List Entry) (c' : Option Nat)
    (hr : specRun c (h1 ++ h2) = some c') : ∃ m, specRun c h1 = some m ∧ specRun m h2 = some c' :=
  Option.bind_eq_some_iff.mp (specRun_app c h1 h2 ▸ hr)

theorem specRun_cellAfter (c : Option Nat) (h : List Entry) (c' : Option Nat) (hr : specRun c h = some c') :
    c' = cellAfter c h := by
  induction h generalizing c with
  | nil => simp only [specRun] at hr; cases hr; rfl
  | cons e rest ih =>
    obtain ⟨h1, h2⟩ := specRun_cons hr
    simpa [cellAfter] using ih _ h2

/-- **a read returns the value of the latest set not yet cleared**: in every reachable state, every
    `get_data` in the history answered with the slot content that the operations completed before it
    leave (`cellAfter` folds `set` / successful `try_set` / `clear` over the prefix) -/
theorem read_latest (n : Nat) (s : Sys) (h : Reachable facts n s) (pre post : List Entry) (t : Nat) (res : Res)
    (hh : s.hist = pre ++ (t, .get, res) :: post) : res = .got (cellAfter none pre) := by
  have hl := linearizable n s h
  rw [hh] at hl
  obtain ⟨m, hm, hrest⟩ := specRun_split none pre _ _ hl
  obtain ⟨h1, _⟩ := specRun_cons hrest
  simp only [spec] at h1
  rw [← h1, specRun_cellAfter none pre m hm]

/-- the slot itself holds what the completed operations leave -/
theorem cell_is_latest (n : Nat) (s : Sys) (h : Reachable facts n s) : s.cell = cellAfter none s.hist :=
  specRun_cellAfter none s.hist s.cell (linearizable n s h)

/-! ### ownership: validity of handed-out data, exactly-once destruction -/

/-- **data handed out stays valid after it is replaced or cleared**: as long as somebody outside the
    slot owns a value (a handle from `set_data` / `try_set_data` / `get_data`, or a value given back),
    its destructor has not run — whatever happened to the slot since -/
theorem handed_out_valid (F : Facts) (n : Nat) (s : Sys) (h : Reachable F n s) (v : Nat) (hv : v ∈ s.out) :
    s.drops v = 0 ∧ 1 ≤ s.owners v := by
  have ld := ld_reachable h
  exact ⟨ld.dr.drp0 v (Or.inr (Nat.ne_of_gt (ld.owned hv))), ld.owned hv⟩

/-- the stored value is valid -/
theorem stored_valid (F : Facts) (n : Nat) (s : Sys) (h : Reachable F n s) (v : Nat) (hv : s.cell = some v) :
    s.drops v = 0 := by
  have ld := ld_reachable h
  have h2 := ld.own v
  rw [hv, cellIs_self] at h2
  exact ld.dr.drp0 v (Or.inr (by omega))

/-- **every stored value is dropped exactly once**: never twice at any time; and once the slot is empty
    (cleared, or gone with the tree) and no handle is left, every value ever passed in has been
    destroyed exactly once -/
theorem dropped_exactly_once (F : Facts) (n : Nat) (s : Sys) (h : Reachable F n s) :
    (∀ v, s.drops v ≤ 1) ∧ (∀ v, v ∉ s.made → s.drops v = 0) ∧
    (s.cell = none → s.out = [] → ∀ v ∈ s.made, s.drops v = 1) := by
  have ld := ld_reachable h
  refine ⟨?_, fun v hv => ld.dr.drp0 v (Or.inl hv), ?_⟩
  · intro v
    cases ld.dr v with
    | fresh _ _ hd | live _ _ hd => exact hd ▸ Nat.zero_le 1
    | dead _ _ hd => exact Nat.le_of_eq hd
  · intro hc ho v hv
    have := ld.own v
    rw [hc, ho] at this
    exact ld.dr.drp1 v hv (by simpa [cellIs] using this)

/-! ### why the lock modes matter: with `try_set_data` under the read lock two threads both succeed -/

def badFacts : Facts := ⟨true, false, false, true⟩
def badRun : Option Sys := do
  let s1 ← step badFacts (Sys.init 2) 0 (.acquire (.trySet 1))
  let s2 ← step badFacts s1 1 (.acquire (.trySet 2))
  let s3 ← step badFacts s2 0 .body
  let s4 ← step badFacts s3 1 .body
  let s5 ← step badFacts s4 0 .body
  step badFacts s5 1 .body
theorem try_set_under_read_lock_unsound :
    (match badRun with
     | some s => s.hist == [(0, .trySet 1, .arc 1), (1, .trySet 2, .arc 2)] && specRun none s.hist == none
     | none => false) = true := by decide

/-! ### non-vacuity: three threads, interleaved sections, replaced data outlives its slot -/
def exRun : Option Sys := do
  let s ← step facts (Sys.init 3) 0 (.acquire (.trySet 1))
  let s ← step facts s 0 .body
  let s ← step facts s 0 .body
  let s ← step facts s 0 .release
  let s ← step facts s 1 (.acquire .get)
  let s ← step facts s 2 (.acquire .get)       -- two readers inside at once
  let s ← step facts s 1 .body
  let s ← step facts s 2 .body
  let s ← step facts s 1 .release
  let s ← step facts s 2 .release
  let s ← step facts s 1 (.acquire (.set 5))
  let s ← step facts s 1 .body                  -- value 1 replaced; three handles to it are still out
  let s ← step facts s 1 .release
  let s ← step facts s 2 (.acquire (.trySet 7))
  let s ← step facts s 2 .body
  let s ← step facts s 2 .body                  -- fails, 7 comes back
  step facts s 2 .release
example : (match exRun with
    | some s => s.cell == some 5 && s.out.count 1 == 3 && s.drops 1 == 0 && s.owners 1 == 3 && s.owners 5 == 2 &&
                s.hist.map (·.2.2) == [.arc 1, .got (some 1), .got (some 1), .arc 5, .back 7]
    | none => false) = true := by decide

end Cst.C18
