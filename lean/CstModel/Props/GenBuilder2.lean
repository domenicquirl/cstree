/-
  Props/GenBuilder2 — the transcribed bodies of `GreenNodeBuilder::token`, `static_token`, `finish_node` and `finish`
  (`green/builder.rs`), evaluated against a *free* semantics of the node cache: a call into the cache answers with an
  uninterpreted term over its arguments (`KEY(cache, text)`, `TOKEN(cache, kind, key, len)`, `NODE(cache, kind, children,
  first)` and the cache afterwards), the vectors are real lists, and what the functions branch on comes from a table of
  observations.  The theorems pin each body to its call structure — which is, line by line, the structure of the model's
  `Builder.token` / `staticToken` / `finishNode` / `finish` — and state what a panic leaves behind: an interner failure
  (and a static-text mismatch in a debug build) unwinds with the builder exactly as it was (C20), `finish` panics unless
  exactly one element is left and it is a node (C01).
-/
import CstModel.Props.GenBuilder
namespace Cst
namespace Gen
open Rs

structure TObs where
  st : Option Text        -- `S::static_text(kind)`
  same : Bool             -- `static_text == text` (asked in debug builds only)
  internOk : Bool         -- the interner accepts the text
  lastPar : Option Val    -- `parents.pop()`
  one : Bool              -- `children.len() == 1`
  lastChild : Option Val  -- `children.pop()`

def KEY (cache text : Val) : Val := .ctor 961 [cache, text]
def CACHE_I (cache text : Val) : Val := .ctor 962 [cache, text]
def TOKEN (cache kind key len : Val) : Val := .ctor 963 [cache, kind, key, len]
def CACHE_T (cache kind key len : Val) : Val := .ctor 964 [cache, kind, key, len]
def NODE (cache kind children first : Val) : Val := .ctor 965 [cache, kind, children, first]
def CACHE_N (cache kind children first : Val) : Val := .ctor 966 [cache, kind, children, first]
/-- the element stack after `NodeCache::node` drained the children from `first` on -/
def DRAINED (children first : Val) : Val := .ctor 967 [children, first]
def OWNED (cache : Val) : Val := .ctor 968 [cache]
/-- a push onto a stack that is not a literal list -/
def PUSHED (stack x : Val) : Val := .ctor 969 [stack, x]

def btSem (dbg : Bool) (o : TObs) : Sem where
  debug := dbg
  app := fun _ _ => none
  call := fun f args =>
    match args with
    | [.nat _] => if f == N.S.static_text then .ok (vOpt (o.st.map fun t => .sym 20 (.text t))) .unit else .unknown
    | [.sym 20 _, .sym 21 _] => if f == N.eq then .ok (.bool o.same) .unit else .unknown
    | [.sym 4 _, .nat 1] => if f == N.eq then .ok (.bool o.one) .unit else .unknown
    | _ => .unknown
  meth := fun m recv args =>
    match recv, args with
    | .sym _ (.text t), [] => if m == N.len then .ok (.nat (blen t)) recv else .unknown
    | .ctor 911 xs, [] => if m == N.pop then .ok (vOpt o.lastPar) (.ctor 911 xs.dropLast) else .unknown
    | .ctor 910 xs, [] =>
      if m == N.len then .ok (.sym 4 (.nat xs.length)) recv
      else if m == N.pop then .ok (vOpt o.lastChild) (.ctor 910 xs.dropLast)
      else .unknown
    | .ctor 910 xs, [x] => if m == N.push then .ok .unit (.ctor 910 (xs ++ [x])) else .unknown
    | .ctor 967 d, [x] => if m == N.push then .ok .unit (PUSHED (.ctor 967 d) x) else .unknown
    | cache, [text] =>
      if m == N.intern then (if o.internOk then .ok (KEY cache text) (CACHE_I cache text) else .panic) else .unknown
    | cache, [kind, key, len] =>
      if m == N.token then .ok (TOKEN cache kind key len) (CACHE_T cache kind key len)
      else if m == N.node then .okM (NODE cache kind key len) (CACHE_N cache kind key len) [kind, DRAINED key len, len]
      else .unknown
    | cache, [] => if m == N.into_owned then .ok (OWNED cache) cache else .unknown
    | _, _ => .unknown

def encB' (cache : Val) (ps cs : List Val) : Val :=
  .strct [(N.field.cache, cache), (N.field.parents, .ctor 911 ps), (N.field.children, .ctor 910 cs)]

/-- `token(kind, text)`: a static-text kind never reaches the interner (and, in a debug build, a foreign text panics before
    anything is touched); otherwise the text is interned *first* — a failure there unwinds with the builder as it was —
    and only then the token is requested from the cache (with the byte length of the text) and pushed -/
theorem b_token_raw (dbg : Bool) (o : TObs) (c : Nat) (ps cs : List Val) (k : Nat) (t : Text) :
    callP (btSem dbg o) 60 Rs.Gen.b_token [encB' (.atom c) ps cs, .nat k, .sym 21 (.text t)] =
      (match o.st with
       | some s =>
         if dbg && !o.same then .panic [some (encB' (.atom c) ps cs)]
         else .val .unit [some (encB' (CACHE_T (.atom c) (.nat k) vNone (.nat (blen s))) ps
                                  (cs ++ [TOKEN (.atom c) (.nat k) vNone (.nat (blen s))]))]
       | none =>
         if !o.internOk then .panic [some (encB' (.atom c) ps cs)]
         else
           let text := Val.sym 21 (.text t)
           let c1 := CACHE_I (.atom c) text
           .val .unit [some (encB' (CACHE_T c1 (.nat k) (vSome (KEY (.atom c) text)) (.nat (blen t))) ps
                              (cs ++ [TOKEN c1 (.nat k) (vSome (KEY (.atom c) text)) (.nat (blen t))]))]) := by
  obtain ⟨st, same, iok, _, _, _⟩ := o
  cases st
  · cases iok <;> kernel_rfl
  · cases dbg
    · kernel_rfl
    · cases same <;> kernel_rfl

/-- `static_token(kind)`: panics (builder untouched) for a kind without static text, else requests the token with the
    static text's byte length and no key, and pushes it; the interner is not involved -/
theorem b_static_token_raw (dbg : Bool) (o : TObs) (c : Nat) (ps cs : List Val) (k : Nat) :
    callP (btSem dbg o) 60 Rs.Gen.b_static_token [encB' (.atom c) ps cs, .nat k] =
      (match o.st with
       | none => .panic [some (encB' (.atom c) ps cs)]
       | some s => .val .unit [some (encB' (CACHE_T (.atom c) (.nat k) vNone (.nat (blen s))) ps
                                       (cs ++ [TOKEN (.atom c) (.nat k) vNone (.nat (blen s))]))]) := by
  obtain ⟨st, _, _, _, _, _⟩ := o
  cases st <;> kernel_rfl

/-- `finish_node()`: pops the innermost open node `(kind, first_child)` — panics when there is none —, hands the whole
    element stack and `first_child` to the node cache (which drains the children from there on), and pushes the node it
    answers onto what is left -/
theorem b_finish_node_raw (dbg : Bool) (o : TObs) (c : Nat) (ps cs : List Val)
    (hl : o.lastPar = none ∨ ∃ kind first, o.lastPar = some (vTuple [kind, first])) :
    callP (btSem dbg o) 60 Rs.Gen.b_finish_node [encB' (.atom c) ps cs] =
      (match o.lastPar with
       | some (.ctor 0 [kind, first]) =>
         .val .unit [some (.strct [(N.field.cache, CACHE_N (.atom c) kind (.ctor 910 cs) first), (N.field.parents, .ctor 911 ps.dropLast),
                                  (N.field.children, PUSHED (DRAINED (.ctor 910 cs) first) (NODE (.atom c) kind (.ctor 910 cs) first))])]
       | _ => .panic [some (encB' (.atom c) ps.dropLast cs)]) := by
  obtain ⟨_, _, _, lp, _, _⟩ := o
  rcases hl with h | ⟨kind, first, h⟩ <;> cases h <;> kernel_rfl

/-- `finish()`: panics unless exactly one element is left; gives the cache back through `into_owned`; the element must be
    a node -/
theorem b_finish_raw (dbg : Bool) (o : TObs) (c : Nat) (ps cs : List Val) (n : Val) :
    (o.one = false → callP (btSem dbg o) 60 Rs.Gen.b_finish [encB' (.atom c) ps cs] = .panic [some (encB' (.atom c) ps cs)])
    ∧ (o.one = true → o.lastChild = some (.ctor N.NodeOrToken.Node [n]) →
        callP (btSem dbg o) 60 Rs.Gen.b_finish [encB' (.atom c) ps cs] =
          .val (vTuple [n, OWNED (.atom c)]) [some (encB' (.atom c) ps cs.dropLast)])
    ∧ (o.one = true → o.lastChild = some (.ctor N.NodeOrToken.Token [n]) →
        callP (btSem dbg o) 60 Rs.Gen.b_finish [encB' (.atom c) ps cs] = .panic [some (encB' (.atom c) ps cs.dropLast)]) := by
  obtain ⟨_, _, _, _, one, lc⟩ := o
  refine ⟨?_, ?_, ?_⟩
  · intro h; cases h; kernel_rfl
  · intro h h2; cases h; cases h2; kernel_rfl
  · intro h h2; cases h; cases h2; kernel_rfl

end Gen
end Cst
