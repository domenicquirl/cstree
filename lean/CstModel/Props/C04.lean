/-
  C04 — Sharing through the node cache is transparent and effective.

  Transparency over *histories*: any number of trees built one after the other through one
  long-lived cache and interner each resolve to their own events' tree, and every earlier tree
  keeps resolving to the same tree afterwards (green values are immutable; the interner only
  grows).  Effectiveness: a token / small node that is offered again is answered from the cache
  with the very same allocation (ghost id).  "Never merged" is the faithfulness of C01, which
  holds for every hash function, i.e. also when heads collide.
-/
import CstModel.Props.C01
import CstModel.Props.C15
import CstModel.Proofs.Owner
namespace Cst.C04

/-- build a list of trees one after the other through one cache; `none` if some build panics -/
def buildMany (cfg : Cfg) (c : Cache) : List Tree → Option (List Green × Cache)
  | [] => some ([], c)
  | t :: ts =>
    match build cfg c t.events with
    | .ok (g, c') =>
      match buildMany cfg c' ts with
      | some (gs, c'') => some (g :: gs, c'')
      | none => none
    | .error _ => none

def totalTokens : List Tree → Nat
  | [] => 0
  | t :: ts => t.nTokens + totalTokens ts

def AllRootsOk (cfg : Cfg) : List Tree → Prop
  | [] => True
  | t :: ts => (∃ k cs, t = .node k cs) ∧ StaticOk cfg t ∧ AllRootsOk cfg ts

/-- **Transparency for every history.** Through any invariant-respecting cache (e.g. one that has
    already been used for any number of other trees), each tree of a history comes out equal in
    structure, kinds and text to its events — and is still that tree *after all later builds*
    (resolution in the final interner): earlier trees are never altered. -/
theorem history_transparent (cfg : Cfg) (hcmp : cfg.cmpChildren = true) :
    (ts : List Tree) → (c : Cache) → CacheInv cfg c → AllRootsOk cfg ts →
    c.interner.strs.length + totalTokens ts ≤ c.interner.cap →
    ∃ gs c', buildMany cfg c ts = some (gs, c') ∧ CacheInv cfg c' ∧
      c.interner.strs <+: c'.interner.strs ∧ c'.interner.cap = c.interner.cap ∧
      resolveL cfg c'.interner gs = some ts
  | [], c, hc, _, _ => ⟨[], c, rfl, hc, List.prefix_refl _, rfl, by simp [resolveL]⟩
  | t :: ts, c, hc, hok, hcap => by
    obtain ⟨⟨k, cs, rfl⟩, hs, hrest⟩ := hok
    simp only [totalTokens] at hcap
    obtain ⟨g, c1, hb, hr, _, hc1, hp1, hcap1, hgrow⟩ := build_tree hcmp hc k cs hs (by omega)
    obtain ⟨gs, c2, hm, hc2, hp2, hcap2, hr2⟩ := history_transparent cfg hcmp ts c1 hc1 hrest (by omega)
    refine ⟨g :: gs, c2, ?_, hc2, List.IsPrefix.trans hp1 hp2, hcap2.trans hcap1, ?_⟩
    · simp [buildMany, hb, hm]
    · simp [resolveL, resolveG_mono hp2 g _ hr, hr2]

/-- a fresh cache gives the same tree as a used one: both resolve to the events' tree -/
theorem fresh_vs_shared (cfg : Cfg) (hcmp : cfg.cmpChildren = true) (c : Cache) (hc : CacheInv cfg c)
    (k : Nat) (cs : List Tree) (hs : StaticOk cfg (.node k cs)) (cap : Nat)
    (hcap : c.interner.strs.length + (Tree.node k cs).nTokens ≤ c.interner.cap)
    (hcap' : (Tree.node k cs).nTokens ≤ cap) :
    ∃ g1 c1 g2 c2, build cfg c (Tree.node k cs).events = .ok (g1, c1) ∧
      build cfg (Cache.empty (Interner.empty cap)) (Tree.node k cs).events = .ok (g2, c2) ∧
      resolveG cfg c1.interner g1 = resolveG cfg c2.interner g2 := by
  obtain ⟨g1, c1, h1, r1, _⟩ := C01.build_faithful cfg hcmp c hc k cs hs hcap
  obtain ⟨g2, c2, h2, r2, _⟩ := C01.build_faithful cfg hcmp (Cache.empty (Interner.empty cap))
    (CacheInv.empty _ _) k cs hs (by simpa [Cache.empty, Interner.empty] using hcap')
  exact ⟨g1, c1, g2, c2, h1, h2, by rw [r1, r2]⟩

/-! ### effectiveness: the cache answers a repeated request with the same allocation -/

/-- a token offered again (same kind, key, length) is the very same allocation -/
theorem token_shared (c : Cache) (d : TokData) :
    ((c.token d).2.token d).1 = (c.token d).1 ∧ ((c.token d).2.token d).2 = (c.token d).2 := by
  rw [Cache.token_hit (Cache.token_lookup c d)]; exact ⟨rfl, rfl⟩

/-- token entries are never rebound or dropped by later token requests -/
theorem token_entry_stable (c : Cache) (d d' : TokData) (g : Green) (h : c.toks.lookup d = some g) :
    (c.token d').2.toks.lookup d = some g := Cache.token_lookup_stable h d'

/-- node requests do not touch the token cache -/
theorem node_keeps_tokens (cfg : Cfg) (c : Cache) (k : Nat) (cs : List Green) :
    (c.node cfg k cs).2.toks = c.toks := Cache.node_toks cfg c k cs

/-- what a request for a small node answers with is an entry of the cache afterwards -/
theorem node_answer_entry (cfg : Cfg) (hcmp : cfg.cmpChildren = true) (c : Cache) (k : Nat) (cs : List Green)
    (hsmall : cs.length ≤ cfg.threshold) :
    ((k, sumLen cs, cfg.H cs), (c.node cfg k cs).1) ∈ (c.node cfg k cs).2.nodes ∧
    Green.beqL (c.node cfg k cs).1.children cs = true := by
  refine c.node_cases cfg k cs (fun e _ hf => ?_) (fun _ _ => ?_) (fun hbig => absurd hsmall (Nat.not_le_of_gt hbig))
  · obtain ⟨he, hb⟩ := Cfg.hit_iff.mp (List.find?_some hf)
    exact ⟨he ▸ List.mem_of_find?_eq_some hf, hb hcmp⟩
  · exact ⟨List.mem_cons_self, Green.beqL_refl cs⟩

/-- a small node offered again with the same children is the very same allocation, and the cache
    does not grow -/
theorem node_shared (cfg : Cfg) (c : Cache) (k : Nat) (cs : List Green) (hsmall : cs.length ≤ cfg.threshold) :
    ((c.node cfg k cs).2.node cfg k cs).1 = (c.node cfg k cs).1 ∧
    ((c.node cfg k cs).2.node cfg k cs).2 = (c.node cfg k cs).2 := by
  refine c.node_cases cfg k cs (fun e _ hf => ?_) (fun _ _ => ?_) (fun hbig => absurd hsmall (Nat.not_le_of_gt hbig))
  · rw [Cache.node_hit hsmall hf]; exact ⟨rfl, rfl⟩
  · rw [Cache.node_hit hsmall (List.find?_cons_of_pos (Cfg.hit_newNode cfg c k cs))]; exact ⟨rfl, rfl⟩

/-! ### node entries are unique and stay: "stored once" for the whole history -/

theorem beq_trans : (a b c : Green) → Green.beq a b = true → Green.beq b c = true → Green.beq a c = true :=
  fun a b c h1 h2 => (Green.beq_iff a c).mpr (((Green.beq_iff a b).mp h1).trans ((Green.beq_iff b c).mp h2))

/-- two entries of the node cache never stand for the same small node -/
def NodeUniq (c : Cache) : Prop :=
  c.nodes.Pairwise (fun e1 e2 => ¬ (e1.1 = e2.1 ∧ Green.beqL e1.2.children e2.2.children = true))

theorem nodeUniq_empty (I : Interner) : NodeUniq (Cache.empty I) := by simp [NodeUniq, Cache.empty]

/-- the invariant survives every request (with the children comparison of the fixed code) -/
theorem nodeUniq_node (cfg : Cfg) (hcmp : cfg.cmpChildren = true) (c : Cache) (k : Nat) (cs : List Green)
    (h : NodeUniq c) : NodeUniq (c.node cfg k cs).2 := by
  refine c.node_cases cfg k cs (fun _ _ _ => h) (fun _ hf => ?_) (fun _ => h)
  refine List.pairwise_cons.mpr ⟨fun e he ⟨h1, h2⟩ => ?_, h⟩
  exact List.find?_eq_none.mp hf e he (Cfg.hit_iff.mpr ⟨h1.symm, fun _ => Green.beqL_symm h2⟩)

theorem nodeUniq_token (c : Cache) (d : TokData) (h : NodeUniq c) : NodeUniq (c.token d).2 := by
  unfold NodeUniq; rw [Cache.token_nodes]; exact h

/-- requests only ever add entries -/
theorem node_entries_grow (cfg : Cfg) (c : Cache) (k : Nat) (cs : List Green) (e : Head × Green)
    (he : e ∈ c.nodes) : e ∈ (c.node cfg k cs).2.nodes := Cache.node_nodes_grow cfg c k cs he

theorem token_keeps_nodes (c : Cache) (d : TokData) : (c.token d).2.nodes = c.nodes := Cache.token_nodes c d

/-- among pairwise `R`-unrelated elements, an element satisfying `p` is the one `find?` returns as soon as any two
    elements satisfying `p` are `R`-related -/
theorem find_unique {α : Type} (R : α → α → Prop) (p : α → Bool) (l : List α) (x : α)
    (hpw : l.Pairwise R) (hR : ∀ a b, p a = true → p b = true → ¬ R a b) (hx : x ∈ l) (hpx : p x = true) :
    l.find? p = some x := by
  obtain ⟨as, bs, rfl⟩ := List.append_of_mem hx
  refine List.find?_eq_some_iff_append.mpr ⟨hpx, as, bs, rfl, fun a ha => ?_⟩
  cases hpa : p a with
  | false => rfl
  | true => exact absurd ((List.pairwise_append.mp hpw).2.2 a ha x List.mem_cons_self) (hR a x hpa hpx)

/-- **stored once, for the whole history**: once a small node stands in the cache, *every* later request
    for a structurally equal small node of that kind — after any number of other requests, which only
    add entries and keep them unique — is answered with that very allocation, and the cache does not grow.
    (`hH`: structurally equal child lists hash equally — `C15.fx_respects` for the real hash.) -/
theorem node_entry_stable (cfg : Cfg) (hcmp : cfg.cmpChildren = true)
    (hH : ∀ a b, Green.beqL a b = true → cfg.H a = cfg.H b ∧ sumLen a = sumLen b)
    (c : Cache) (hu : NodeUniq c) (k : Nat) (g : Green) (cs0 cs : List Green)
    (hentry : ((k, sumLen cs0, cfg.H cs0), g) ∈ c.nodes) (hg : Green.beqL g.children cs0 = true)
    (heq : Green.beqL cs0 cs = true) (hsmall : cs.length ≤ cfg.threshold) :
    c.node cfg k cs = (g, c) := by
  obtain ⟨e1, e2⟩ := hH cs0 cs heq
  refine Cache.node_hit hsmall (e := (_, g)) (find_unique _ _ c.nodes _ hu (fun a b ha hb hR => ?_) hentry ?_)
  · obtain ⟨ha1, ha2⟩ := Cfg.hit_iff.mp ha
    obtain ⟨hb1, hb2⟩ := Cfg.hit_iff.mp hb
    exact hR ⟨ha1.trans hb1.symm, Green.beqL_trans (ha2 hcmp) (Green.beqL_symm (hb2 hcmp))⟩
  · exact Cfg.hit_iff.mpr ⟨by rw [e1, e2], fun _ => Green.beqL_trans hg heq⟩

/-- the same for the implementation's hash (Fx over the children's words, under any mask) and the
    comparison the source makes (extracted) -/
theorem node_entry_stable_impl (mask : UInt32) (statics : List (Nat × Text)) (th : Nat) (dbg : Bool)
    (c : Cache) (hu : NodeUniq c) (k : Nat) (g : Green) (cs0 cs : List Green) :
    let cfg : Cfg := { statics := statics, H := fxChildHash mask, threshold := th,
                       cmpChildren := SourceFacts.nodeCacheComparesChildren, debug := dbg }
    ((k, sumLen cs0, cfg.H cs0), g) ∈ c.nodes → Green.beqL g.children cs0 = true →
    Green.beqL cs0 cs = true → cs.length ≤ cfg.threshold → c.node cfg k cs = (g, c) := by
  intro cfg h1 h2 h3 h4
  have hc : SourceFacts.nodeCacheComparesChildren = true := by decide
  exact node_entry_stable cfg hc (fun a b hab => ⟨C15.fx_respects mask a b hab, sumLen_of_beqL hab⟩)
    c hu k g cs0 cs h1 h2 h3 h4

/-- nodes above the threshold are never entered into the cache -/
theorem big_node_not_cached (cfg : Cfg) (c : Cache) (k : Nat) (cs : List Green) (hbig : cfg.threshold < cs.length) :
    (c.node cfg k cs).2.nodes = c.nodes ∧ (c.node cfg k cs).1.id = c.nextId := by
  rw [Cache.node_big hbig]; exact ⟨rfl, rfl⟩

/-- the extracted threshold is the documented one (small nodes = at most three children) -/
theorem threshold_fact : SourceFacts.childrenCacheThreshold = 3 := by decide

/-! ### non-vacuity -/
example :
    let cfg : Cfg := { statics := [(12, ['+'])], H := fun _ => 7, threshold := 3, cmpChildren := true, debug := false }
    (match buildMany cfg (Cache.empty (Interner.empty 10))
        [.node 0 [.node 5 [.tok 4 ['a']], .tok 12 ['+']], .node 0 [.node 5 [.tok 4 ['b']]], .node 5 [.tok 4 ['a']]] with
     | some (gs, c') => (resolveL cfg c'.interner gs).map (fun ts => ts.length)
     | none => none) = some 3 := by
  decide +kernel


/-! ### the four ways of giving a builder its cache (`Model/Owner`)

`with_cache` (borrowed cache), `from_cache` (owned cache), `with_interner` (fresh cache over a borrowed interner),
`from_interner` (fresh cache over an owned interner).  Sharing is *transparent* whichever route is taken, the cache
comes back from `finish` exactly when the builder owned it, and what a borrowed cache has learnt is what an owned
one would have been handed back with. -/

/-- `finish` returns the cache iff the builder owned it; otherwise the lender sees it; the interner can be taken out
    of the returned cache iff that cache owns it -/
theorem finish_returns_cache_iff_owned (cfg : Cfg) (r : Route) (c : Cache) (evs : List Ev) (o : Outcome)
    (h : buildVia cfg r c evs = .ok o) :
    (o.returned.isSome ↔ r ≠ .withCache) ∧ (o.lentCache.isSome ↔ r = .withCache) ∧
    (o.lentInterner.isSome ↔ r = .withInterner) ∧ (o.intoInterner.isSome ↔ (r = .fromCache ∨ r = .fromInterner)) := by
  obtain ⟨g, c', _, rfl⟩ := buildVia_ok_iff.mp h
  cases r <;> simp [Outcome.of, Route.ownsCache, Route.ownsInterner]

/-- **transparency on every route**: for every tree, through any of the four constructors, from any
    invariant-respecting cache, the build succeeds, the finished tree resolves — through the interner the caller holds
    afterwards — to exactly the events' tree, and the cache the caller keeps is again a good one over an interner that
    only grew -/
theorem via_faithful (cfg : Cfg) (hcmp : cfg.cmpChildren = true) (r : Route) (c : Cache) (hc : CacheInv cfg c)
    (k : Nat) (cs : List Tree) (hs : StaticOk cfg (.node k cs))
    (hcap : c.interner.strs.length + (Tree.node k cs).nTokens ≤ c.interner.cap) :
    ∃ o, buildVia cfg r c (Tree.node k cs).events = .ok o ∧
      resolveG cfg (o.slotAfter r c).interner o.tree = some (.node k cs) ∧
      o.tree.len = blen (Tree.node k cs).text ∧
      CacheInv cfg (o.slotAfter r c) ∧ c.interner.strs <+: (o.slotAfter r c).interner.strs := by
  obtain ⟨g, c', hb, hres, hlen, hinv, hpre, _⟩ :=
    build_tree hcmp (r.start_inv hc) k cs hs (by rw [Route.start_interner]; exact hcap)
  rw [Route.start_interner] at hpre
  refine ⟨_, buildVia_ok_iff.mpr ⟨g, c', hb, rfl⟩, ?_⟩
  rw [Outcome.slotAfter_of]
  split
  · exact ⟨hres, hlen, CacheInv.fresh, hpre⟩
  · exact ⟨hres, hlen, hinv, hpre⟩

/-- the routes cannot be told apart by the tree: any two of them, from any two good caches over interners with room,
    give trees that resolve to the same thing -/
theorem via_routes_agree (cfg : Cfg) (hcmp : cfg.cmpChildren = true) (r1 r2 : Route) (c1 c2 : Cache)
    (h1 : CacheInv cfg c1) (h2 : CacheInv cfg c2) (k : Nat) (cs : List Tree) (hs : StaticOk cfg (.node k cs))
    (hcap1 : c1.interner.strs.length + (Tree.node k cs).nTokens ≤ c1.interner.cap)
    (hcap2 : c2.interner.strs.length + (Tree.node k cs).nTokens ≤ c2.interner.cap) :
    ∃ o1 o2, buildVia cfg r1 c1 (Tree.node k cs).events = .ok o1 ∧ buildVia cfg r2 c2 (Tree.node k cs).events = .ok o2 ∧
      resolveG cfg (o1.slotAfter r1 c1).interner o1.tree = resolveG cfg (o2.slotAfter r2 c2).interner o2.tree := by
  obtain ⟨o1, a1, a2, _⟩ := via_faithful cfg hcmp r1 c1 h1 k cs hs hcap1
  obtain ⟨o2, b1, b2, _⟩ := via_faithful cfg hcmp r2 c2 h2 k cs hs hcap2
  exact ⟨o1, o2, a1, b1, by rw [a2, b2]⟩

/-- a lent cache learns exactly what an owned one is handed back with: same tree (same allocations), same cache -/
theorem with_cache_is_from_cache (cfg : Cfg) (c : Cache) (evs : List Ev) :
    (match buildVia cfg .withCache c evs, buildVia cfg .fromCache c evs with
     | .ok o1, .ok o2 => o1.tree = o2.tree ∧ o1.lentCache = o2.returned ∧ o1.slotAfter .withCache c = o2.slotAfter .fromCache c
     | .error p1, .error p2 => p1 = p2
     | _, _ => False) := by
  unfold buildVia
  simp only [Route.start]
  cases build cfg c evs with
  | error p => simp
  | ok gc => simp [Route.ownsCache, Outcome.slotAfter]

/-- after `with_interner` the build's cache is gone, but every string it interned stays resolvable: the slot is an empty
    cache over the grown interner — sharing starts afresh, nothing else is lost -/
theorem with_interner_forgets (cfg : Cfg) (c : Cache) (evs : List Ev) (o : Outcome)
    (h : buildVia cfg .withInterner c evs = .ok o) :
    (o.slotAfter .withInterner c).toks = [] ∧ (o.slotAfter .withInterner c).nodes = [] ∧
    o.lentInterner = some (o.slotAfter .withInterner c).interner := by
  obtain ⟨g, c', _, rfl⟩ := buildVia_ok_iff.mp h
  exact ⟨rfl, rfl, rfl⟩

/-! non-vacuity: one tree through the routes from a cache that already knows its sub-tree -/
def ownerDemo : Bool :=
  let cfg : Cfg := { statics := [], H := fun _ => 0, threshold := 3, cmpChildren := true, debug := false }
  let evs : List Ev := [.start 0, .start 1, .tok 10 ['a'], .finish, .finish]
  match build cfg (Cache.empty (Interner.empty 10)) evs with
  | .ok (_, c) =>
    (match buildVia cfg .withCache c evs, buildVia cfg .withInterner c evs with
     | .ok o1, .ok o2 => o1.returned.isNone && o1.lentCache.isSome && o2.returned.isSome && o2.intoInterner.isNone &&
         o1.tree.id != o2.tree.id           -- the lent cache shared the old root, the fresh cache allocated anew
     | _, _ => false)
  | .error _ => false

example : ownerDemo = true := by decide +kernel

end Cst.C04
