/-
  Props/GenIntern — the provided methods of the `Interner` / `Resolver` traits and the `&mut I` forwarding impl
  (`interning/traits.rs`), as transcribed: `get_or_intern` asks `try_get_or_intern` exactly once with the text it was
  given, hands out the key on `Ok` and panics on `Err` (no retry, no fallback key); `resolve` panics exactly when
  `try_resolve` finds nothing; the forwarding impl calls the method of the same name once (C20: "a failed interning
  surfaces as a panic"; C10: keys are what the back end said).
  The interner is a call counter: `.ctor 990 [.nat n]` has been asked `n` times.
-/
import CstModel.Generated.RsFns
import CstModel.Proofs.KernelRfl
namespace Cst
namespace Gen
open Rs

/-- an interner that has been asked `n` times; `ans` is what the next `try_get_or_intern` / `try_resolve` answers -/
def iSem (ans : Val) : Sem :=
  { Sem.none with meth := fun m recv args =>
      match recv, args with
      | .ctor 990 [.nat n], [x] =>
        if m == N.try_get_or_intern || m == N.try_resolve then .ok (.ctor 991 [ans, x]) (.ctor 990 [.nat (n + 1)])
        else if m == N.get_or_intern then .ok (.ctor 992 [x]) (.ctor 990 [.nat (n + 1)])
        else .unknown
      | _, _ => .unknown }

/-- as above, but the answer is a `Result` / `Option` the provided method inspects -/
def iSemR (ans : Val) : Sem :=
  { Sem.none with meth := fun m recv args =>
      match recv, args with
      | .ctor 990 [.nat n], [_] =>
        if m == N.try_get_or_intern || m == N.try_resolve then .ok ans (.ctor 990 [.nat (n + 1)]) else .unknown
      | _, _ => .unknown }

/-- `Interner::get_or_intern` (provided method): one call of `try_get_or_intern`; `Ok(key)` → `key`; `Err(_)` → panic -/
theorem i_get_or_intern (n : Nat) (text key err : Val) :
    callP (iSemR (.ctor N.Ok [key])) 20 Rs.Gen.i_get_or_intern [.ctor 990 [.nat n], text] = .val key [some (.ctor 990 [.nat (n + 1)])]
    ∧ callP (iSemR (.ctor N.Err [err])) 20 Rs.Gen.i_get_or_intern [.ctor 990 [.nat n], text] = .panic [some (.ctor 990 [.nat (n + 1)])] :=
  ⟨by kernel_rfl, by kernel_rfl⟩

/-- `Resolver::resolve` (provided method): one call of `try_resolve`; `Some(s)` → `s`; `None` → panic -/
theorem i_resolve (n : Nat) (key s : Val) :
    callP (iSemR (vSome s)) 20 Rs.Gen.i_resolve [.ctor 990 [.nat n], key] = .val s [some (.ctor 990 [.nat (n + 1)])]
    ∧ callP (iSemR vNone) 20 Rs.Gen.i_resolve [.ctor 990 [.nat n], key] = .panic [some (.ctor 990 [.nat (n + 1)])] :=
  ⟨by kernel_rfl, by kernel_rfl⟩

/-- `impl Interner for &mut I`: each method is one call of the method of the same name on the interner behind the
    reference, with the same text, and its answer is handed on unchanged -/
theorem i_fwd (n : Nat) (text : Val) :
    callP (iSem (.atom 0)) 20 Rs.Gen.i_fwd_get_or_intern [.ctor 990 [.nat n], text] =
      .val (.ctor 992 [text]) [some (.ctor 990 [.nat (n + 1)])]
    ∧ callP (iSem (.atom 0)) 20 Rs.Gen.i_fwd_try_get_or_intern [.ctor 990 [.nat n], text] =
      .val (.ctor 991 [.atom 0, text]) [some (.ctor 990 [.nat (n + 1)])] :=
  ⟨by kernel_rfl, by kernel_rfl⟩

/-- the forwarding impl's `try_get_or_intern` on its own: the text it asks about is the text it was given -/
theorem i_get_or_intern_arg (n : Nat) (text : Val) :
    callP (iSem (.atom 0)) 20 Rs.Gen.i_fwd_try_get_or_intern [.ctor 990 [.nat n], text] =
      .val (.ctor 991 [.atom 0, text]) [some (.ctor 990 [.nat (n + 1)])] :=
  (i_fwd n text).2

end Gen
end Cst
