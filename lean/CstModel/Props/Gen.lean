/-
  Props/Gen — the transcribed function bodies of `Generated/RsFns.lean` (rewritten from /repo on every run by
  `tools/rs2lean.py`) evaluate, under the evaluator of `Model/Rs`, to what the hand-written model functions
  compute: for *every* argument.  These theorems are the static part of the tie between model and source for
  the functions listed in `tools/rs2lean.py` — a change to one of those bodies that changes its meaning (or
  leaves the transcribed fragment) breaks the theorem about it, whatever the generators happen to sample.

  They are obligations of the properties the functions serve: `utility_types.rs` (C03 / C13: element accessors,
  walk events, the `TokenAtOffset` answer type), `SyntaxToken::text_eq` / `resolve_text` (C11),
  `SyntaxToken::write_debug` (C19), `SyntaxToken::text_range` (C02).

  In all of `Props/Gen*` the case split follows the body's control flow: a value is split only on the paths that look
  at it.  A case in which it is still a variable holds for each of its values, and every case pays for a kernel
  evaluation of its whole path.
-/
import CstModel.Generated.RsFns
import CstModel.Proofs.KernelRfl
import CstModel.Model.Util
import CstModel.Model.Fmt
namespace Cst
namespace Gen
open Rs Util

/-! ### `utility_types.rs` -/

def encNOT : NodeOrToken Val Val → Val
  | .node n => .ctor N.NodeOrToken.Node [n]
  | .token t => .ctor N.NodeOrToken.Token [t]

def encWalk : WalkEvent Val → Val
  | .enter a => .ctor N.WalkEvent.Enter [a]
  | .leave a => .ctor N.WalkEvent.Leave [a]

def encTAO : TAO Val → Val
  | .none => .ctor N.TokenAtOffset.None []
  | .single a => .ctor N.TokenAtOffset.Single [a]
  | .between l r => .ctor N.TokenAtOffset.Between [l, r]

theorem not_into_node (x : NodeOrToken Val Val) :
    call Sem.none 10 Rs.Gen.not_into_node [encNOT x] = .val (vOpt x.intoNode) [some (encNOT x)] := by
  cases x <;> kernel_rfl

theorem not_into_token (x : NodeOrToken Val Val) :
    call Sem.none 10 Rs.Gen.not_into_token [encNOT x] = .val (vOpt x.intoToken) [some (encNOT x)] := by
  cases x <;> kernel_rfl

theorem not_as_node (x : NodeOrToken Val Val) :
    call Sem.none 10 Rs.Gen.not_as_node [encNOT x] = .val (vOpt x.asNode) [some (encNOT x)] := by
  cases x <;> kernel_rfl

theorem not_as_token (x : NodeOrToken Val Val) :
    call Sem.none 10 Rs.Gen.not_as_token [encNOT x] = .val (vOpt x.asToken) [some (encNOT x)] := by
  cases x <;> kernel_rfl

/-- `as_ref` and `cloned` are re-typings: the same element comes back -/
theorem not_as_ref (x : NodeOrToken Val Val) :
    call Sem.none 10 Rs.Gen.not_as_ref [encNOT x] = .val (encNOT x) [some (encNOT x)] := by
  cases x <;> kernel_rfl

theorem not_cloned (x : NodeOrToken Val Val) :
    call Sem.none 10 Rs.Gen.not_cloned [encNOT x] = .val (encNOT x) [some (encNOT x)] := by
  cases x <;> kernel_rfl

/-- a `Sem` in which `fmt` of a payload `v` with formatter `f` answers `show v f` -/
def fmtSem (sh : Val → Val → Val) : Sem :=
  { Sem.none with meth := fun m recv args =>
      if m == N.fmt then (match args with | [f] => .ok (sh recv f) recv | _ => .unknown) else .unknown }

/-- `Display for NodeOrToken`: whichever side is present formats itself, with the caller's formatter -/
theorem not_display (sh : Val → Val → Val) (x : NodeOrToken Val Val) (f : Val) :
    call (fmtSem sh) 10 Rs.Gen.not_display [encNOT x, f] (xs := []) =
      .val (match x with | .node n => sh n f | .token t => sh t f) [] := by
  cases x <;> kernel_rfl

/-- a `Sem` in which function value `0` is `g` -/
def appSem (g : Val → Val) : Sem :=
  { Sem.none with app := fun k args => if k == 0 then (match args with | [v] => some (g v) | _ => none) else none }

theorem walk_map (g : Val → Val) (e : WalkEvent Val) :
    call (appSem g) 10 Rs.Gen.walk_map [encWalk e, .fn 0] (xs := []) = .val (encWalk (e.map g)) [] := by
  cases e <;> kernel_rfl

theorem tao_map (g : Val → Val) (t : TAO Val) :
    call (appSem g) 10 Rs.Gen.tao_map [encTAO t, .fn 0] (xs := []) = .val (encTAO (t.map g)) [] := by
  cases t <;> kernel_rfl

theorem tao_right_biased (t : TAO Val) :
    call Sem.none 10 Rs.Gen.tao_right_biased [encTAO t] (xs := []) = .val (vOpt t.rightBiased) [] := by
  cases t <;> kernel_rfl

theorem tao_left_biased (t : TAO Val) :
    call Sem.none 10 Rs.Gen.tao_left_biased [encTAO t] (xs := []) = .val (vOpt t.leftBiased) [] := by
  cases t <;> kernel_rfl

/-- `Iterator::next` with its `mem::replace` dance: the item and the iterator afterwards -/
theorem tao_next (t : TAO Val) :
    call Sem.none 10 Rs.Gen.tao_next [encTAO t] = .val (vOpt t.next.1) [some (encTAO t.next.2)] := by
  cases t <;> kernel_rfl

def encHint : Nat × Option Nat → Val
  | (lo, hi) => vTuple [.nat lo, vOpt (hi.map .nat)]

theorem tao_size_hint (t : TAO Val) :
    call Sem.none 10 Rs.Gen.tao_size_hint [encTAO t] = .val (encHint t.sizeHint) [some (encTAO t)] := by
  cases t <;> kernel_rfl

/-- `MaybeOwned` (how the builder holds its cache): only an owned value is given back -/
theorem mo_into_owned (v : Val) :
    call Sem.none 10 Rs.Gen.mo_into_owned [.ctor N.MaybeOwned.Owned [v]] (xs := []) = .val (vSome v) []
    ∧ call Sem.none 10 Rs.Gen.mo_into_owned [.ctor N.MaybeOwned.Borrowed [v]] (xs := []) = .val vNone [] :=
  ⟨by kernel_rfl, by kernel_rfl⟩

theorem mo_deref (v : Val) :
    call Sem.none 10 Rs.Gen.mo_deref [.ctor N.MaybeOwned.Owned [v]] (xs := []) = .val v []
    ∧ call Sem.none 10 Rs.Gen.mo_deref [.ctor N.MaybeOwned.Borrowed [v]] (xs := []) = .val v []
    ∧ call Sem.none 10 Rs.Gen.mo_deref_mut [.ctor N.MaybeOwned.Owned [v]] (xs := []) = .val v []
    ∧ call Sem.none 10 Rs.Gen.mo_deref_mut [.ctor N.MaybeOwned.Borrowed [v]] (xs := []) = .val v [] :=
  ⟨by kernel_rfl, by kernel_rfl, by kernel_rfl, by kernel_rfl⟩

/-! ### `SyntaxToken` (`syntax/token.rs`)

The token functions are evaluated in a `Sem` that answers what they ask of their surroundings from a table of
*observations* carried by the encoded token (kind, key, stored length, offset, the dialect's static text for the
kind, the interner's text for the key), so that every value the evaluator has to branch on becomes a
constructor after a finite case split and each case closes by `rfl`; a second, evaluator-free step instantiates
the observations with the model's functions. -/

def tokCtor : Nat := 900
/-- kind, key, stored length, offset, `S::static_text(kind)`, `resolver.resolve(key)` -/
def encTok (kind : Nat) (key : Option Nat) (len off : Nat) (st rs : Option Text) : Val :=
  .ctor 900 [.nat kind, vOpt (key.map .nat), .nat len, .nat off, vOpt (st.map .text), vOpt (rs.map .text)]

def optText (o : Option Text) : Val := vOpt (o.map .text)

def tokSem (dbg : Bool) : Sem where
  debug := dbg
  app := fun _ _ => none
  call := fun f args =>
    if f == N.TextRange.at then (match args with
      | [.nat o, .nat l] => .ok (vTuple [.nat o, .nat (o + l)]) .unit
      | _ => .unknown)
    else .unknown
  meth := fun m recv args =>
    match recv, args with
    | .ctor 900 [.nat k, key, .nat l, .nat _, st, _], [] =>
      if m == N.green then .ok recv recv
      else if m == N.text_key then .ok key recv
      else if m == N.syntax_kind || m == N.kind then .ok (.nat k) recv
      else if m == N.static_text then .ok st recv
      else if m == N.text_len then .ok (.nat l) recv
      else .unknown
    | .ctor 900 [.nat _, .ctor 1 [_], .nat _, .nat _, _, rs], [_resolver] =>
      if m == N.text then .ok rs recv else .unknown
    | .ctor 900 [.nat _, .ctor 2 [], .nat _, .nat _, _, _], [_resolver] =>
      if m == N.text then .ok vNone recv else .unknown
    | _, _ => .unknown

/-- what the transcribed `text_eq` computes, read off the evaluator (`none` = a `debug_assert!` fired) -/
def textEqRaw (dbg : Bool) (ka : Nat) (keya : Option Nat) (sa : Option Text) (kb : Nat) (keyb : Option Nat) (sb : Option Text) : Option Bool :=
  match keya, keyb with
  | some k1, some k2 => some (Val.beq (.nat k1) (.nat k2))
  | some _, none => some false
  | none, some _ => some false
  | none, none =>
    if dbg && (sa.isNone || sb.isNone) then none
    else some (Val.beq (.nat ka) (.nat kb) || Val.beq (optText sa) (optText sb))

theorem tok_text_eq_raw (dbg : Bool) (ka : Nat) (keya : Option Nat) (la oa : Nat) (sa ra : Option Text)
    (kb : Nat) (keyb : Option Nat) (lb ob : Nat) (sb rb : Option Text) :
    call (tokSem dbg) 40 Rs.Gen.tok_text_eq [encTok ka keya la oa sa ra, encTok kb keyb lb ob sb rb] (xs := []) =
      (match textEqRaw dbg ka keya sa kb keyb sb with
       | some r => .val (.bool r) []
       | none => .panic) := by
  -- the static texts are looked at only when neither token has a key
  cases keya <;> cases keyb
  · cases sa
    · cases dbg
      · cases sb <;> kernel_rfl
      · kernel_rfl
    · cases sb <;> cases dbg <;> kernel_rfl
  all_goals kernel_rfl

theorem beq_optText : (a b : Option Text) → Val.beq (optText a) (optText b) = (a == b)
  | some _, some _ => Bool.and_true _      -- `Val.beqL [x] [y]` is `Val.beq x y && true`
  | some _, none | none, some _ | none, none => rfl

/-- `SyntaxToken::text_eq`, as transcribed from the source, computes the model's `textEq` on every pair of tokens
    (a `debug_assert!` that fires is the model's `none`) -/
theorem tok_text_eq (cfg : Cfg) (ia ka : Nat) (keya : Option Nat) (la oa : Nat) (ra : Option Text)
    (ib kb : Nat) (keyb : Option Nat) (lb ob : Nat) (rb : Option Text) :
    call (tokSem cfg.debug) 40 Rs.Gen.tok_text_eq
        [encTok ka keya la oa (cfg.staticText ka) ra, encTok kb keyb lb ob (cfg.staticText kb) rb] (xs := []) =
      (match textEq cfg (.tok ia ka keya la) (.tok ib kb keyb lb) with
       | some r => .val (.bool r) []
       | none => .panic) := by
  rw [tok_text_eq_raw]
  cases keya <;> cases keyb <;> simp only [textEqRaw, textEq, beq_optText] <;> rfl

/-- what `resolve_text` computes: static text first, else the interner's text for the key; `none` = the `unwrap` panics -/
theorem tok_resolve_text (k : Nat) (key : Option Nat) (l o : Nat) (st rs : Option Text) (resolver : Val) :
    call (tokSem false) 20 Rs.Gen.tok_resolve_text [encTok k key l o st rs, resolver] (xs := []) =
      (match (match st with | some t => some t | none => (match key with | some _ => rs | none => none)) with
       | some t => .val (.text t) []
       | none => .panic) := by
  cases st
  · cases key
    · kernel_rfl
    · cases rs <;> kernel_rfl
  · kernel_rfl

/-- `resolve_text` is the model's `tokenText` -/
theorem tok_resolve_text_model (cfg : Cfg) (I : Interner) (i k : Nat) (key : Option Nat) (l o : Nat) (resolver : Val) :
    call (tokSem false) 20 Rs.Gen.tok_resolve_text
        [encTok k key l o (cfg.staticText k) (key.bind I.resolve), resolver] (xs := []) =
      (match tokenText cfg I (.tok i k key l) with
       | some t => .val (.text t) []
       | none => .panic) := by
  rw [tok_resolve_text]
  cases h : cfg.staticText k <;> cases key <;> simp [tokenText, h]

/-- a red token: its offset and its green token -/
def encRedTok (o : Nat) (g : Val) : Val := .strct [(N.field.offset, .nat o), (N.field.green, g)]

def redSem : Sem :=
  { tokSem false with meth := fun m recv args =>
      match recv, args with
      | .strct [(600, .nat _), (606, g)], [] => if m == N.green then .ok g recv else .unknown
      | _, _ => (tokSem false).meth m recv args }

/-- `text_range` = `[offset, offset + stored length)` -/
theorem tok_text_range (k : Nat) (key : Option Nat) (l o o' : Nat) (st rs : Option Text) :
    call redSem 20 Rs.Gen.tok_text_range [encRedTok o (encTok k key l o' st rs)] (xs := []) =
      .val (vTuple [.nat o, .nat (o + l)]) [] := by
  kernel_rfl

/-! #### `write_debug`: the abbreviation window -/

/-- observations: the text `t`, its byte length as reported (`n`), whether bytes 21 … 24 are character boundaries,
    and the prefixes ending there (`none` = slicing there panics) -/
def dbgSem (t : Text) (n : Nat) (b21 b22 b23 b24 : Bool) (p21 p22 p23 p24 : Option Text) : Sem where
  debug := false
  app := fun _ _ => none
  call := fun f args =>
    if f == N.format then (match args with
      | [.atom 2488645864, .text p] => .ok (.text (p ++ " ...".toList)) .unit      -- "{} ..."
      | _ => .unknown)
    else .unknown
  meth := fun m recv args =>
    let sl (p : Option Text) : MRes := match p with | some p => .ok (.text p) recv | none => .panic
    match recv, args with
    | .atom 1, [] => if m == N.kind then .ok (.atom 2) recv else if m == N.text_range then .ok (.atom 3) recv else .unknown
    | .atom 1, [_resolver] => if m == N.resolve_text then .ok (.text t) recv else .unknown
    | .text _, [] => if m == N.len then .ok (.nat n) recv else .unknown
    | .text _, [.nat 21] => if m == N.is_char_boundary then .ok (.bool b21) recv else .unknown
    | .text _, [.nat 22] => if m == N.is_char_boundary then .ok (.bool b22) recv else .unknown
    | .text _, [.nat 23] => if m == N.is_char_boundary then .ok (.bool b23) recv else .unknown
    | .text _, [.nat 24] => if m == N.is_char_boundary then .ok (.bool b24) recv else .unknown
    | .text _, [.ctor 2 [], .ctor 1 [.nat 21]] => if m == N.slice then sl p21 else .unknown
    | .text _, [.ctor 2 [], .ctor 1 [.nat 22]] => if m == N.slice then sl p22 else .unknown
    | .text _, [.ctor 2 [], .ctor 1 [.nat 23]] => if m == N.slice then sl p23 else .unknown
    | .text _, [.ctor 2 [], .ctor 1 [.nat 24]] => if m == N.slice then sl p24 else .unknown
    | _, _ => .unknown

/-- the sink after `write_debug`: `"{:?}@{:?}"` with kind and range, then `" {:?}"` with the shown text -/
def dbgLog (shown : Text) : Val :=
  .ctor 950 [vTuple [.atom 3527341464, .atom 2, .atom 3], vTuple [.atom 3830167679, .text shown]]

/-- `write_debug` on any ten observations (the text need not be where they came from): a short text whole, else the
    prefix up to the first boundary among bytes 21 … 24 with `" ..."`; `none` = `unreachable!()` or a slice off a
    boundary.  The right side is `tokenDebugText 25 21 25` unrolled, with the observations in place of the text's own. -/
theorem tok_write_debug_raw (t : Text) (n : Nat) (b21 b22 b23 b24 : Bool) (p21 p22 p23 p24 : Option Text) :
    call (dbgSem t n b21 b22 b23 b24 p21 p22 p23 p24) 60 Rs.Gen.tok_write_debug [.atom 1, .atom 9, .ctor 950 []] (xs := [2]) =
      (match (if n < 25 then some t
              else if b21 then p21.map (· ++ " ...".toList) else if b22 then p22.map (· ++ " ...".toList)
              else if b23 then p23.map (· ++ " ...".toList) else if b24 then p24.map (· ++ " ...".toList) else none) with
       | some s => .val (.ctor N.Ok [.unit]) [some (dbgLog s)]
       | none => .panic) := by
  by_cases h : n < 25
  · -- `dbgSem` answers `len` with a bare number, which the evaluator compares itself: `n` has to be a literal
    simp only [h, if_true]
    iterate 25 (cases n with | zero => kernel_rfl | succ n => ?_)
    omega
  · obtain ⟨m, rfl⟩ : ∃ m, n = m + 25 := ⟨n - 25, by omega⟩
    cases b21
    · cases b22
      · cases b23
        · cases b24
          · kernel_rfl
          · cases p24 <;> kernel_rfl
        · cases p23 <;> kernel_rfl
      · cases p22 <;> kernel_rfl
    · cases p21 <;> kernel_rfl

/-- `SyntaxToken::write_debug`, as transcribed from the source, shows exactly the model's `tokenDebugText 25 21 25`
    of the token's text (and panics exactly where that is `none`), for every text -/
theorem tok_write_debug (t : Text) :
    call (dbgSem t (blen t) (isBoundary t 21) (isBoundary t 22) (isBoundary t 23) (isBoundary t 24)
            (takeBytes t 21) (takeBytes t 22) (takeBytes t 23) (takeBytes t 24)) 60 Rs.Gen.tok_write_debug
        [.atom 1, .atom 9, .ctor 950 []] (xs := [2]) =
      (match tokenDebugText 25 21 25 t with
       | some s => .val (.ctor N.Ok [.unit]) [some (dbgLog s)]
       | none => .panic) := by
  simp only [tokenDebugText, abbrevGo]
  exact tok_write_debug_raw ..

end Gen
end Cst
