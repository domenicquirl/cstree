/-
  C03 — Navigation is coherent with the tree structure.

  Every operation of `Model/Red` returns positions (paths); the theorems say *which* position each
  one returns in terms of the green children lists (the tree's structure; hop by hop in `Proofs/Nav`,
  `Proofs/BackN`), that the parent of every child of `n` is `n`, that the child iterators yield exactly what their size reports announce, and
  that the preorder successor function enumerates the recursive preorder (properly nested
  enter/leave events, every element once; `Proofs/Preorder`, below the walk simulations that use it).
-/
import CstModel.Proofs.Preorder
import CstModel.Generated.Forwarders
namespace Cst.C03

open Red

/-- `ancestors` of a node are exactly the prefixes of its path, innermost first -/
theorem ancestorsOf_spec (p : Path) (n : Nat) (h : p.length < n) :
    Red.ancestorsOf p n = (List.range (p.length + 1)).map (fun k => p.take (p.length - k)) := by
  induction n generalizing p with
  | zero => cases h
  | succ n ih =>
    rw [Red.ancestorsOf, List.range_succ_eq_map, List.map_cons, List.map_map, Nat.sub_zero, List.take_length]
    congr 1
    rcases List.eq_nil_or_concat p with rfl | ⟨q, i, rfl⟩
    · rfl
    · rw [List.concat_eq_append] at h ⊢
      have hq : q.length < n := by rw [List.length_append] at h; exact Nat.lt_of_succ_lt_succ h
      rw [parent_child]; dsimp only
      rw [ih q hq, List.length_append]
      refine List.map_congr_left fun k _ => ?_
      show _ = List.take (q.length + 1 - (k + 1)) (q ++ [i])
      rw [Nat.add_sub_add_right, List.take_append_of_le_length (Nat.sub_le ..)]

/-! ### what an iterator reports about its size agrees with what it yields -/

theorem elem_iter_size_agrees (it : Red.It) (r : Red) :
    (Red.collectElems it r (it.rest.length + 1)).1.length = it.lenElems := by
  rw [collectElems_spec it r _ (Nat.lt_succ_self _)]; simp [Red.It.lenElems]

/-- **`SyntaxNodeChildren`: length = count = size hint = number of items actually yielded** -/
theorem node_iter_size_agrees (it : Red.It) (r : Red) (fuel : Nat) (h : it.rest.length < fuel) :
    (Red.collectNodes it r fuel).1.length = it.lenNodes := by
  obtain ⟨par, rest, idx, off⟩ := it
  rw [collectNodes_spec par rest idx off r fuel h, List.length_map, lenNodes_eq]; rfl

/-! ### the wrapper layer (`element.rs`, `resolved.rs`) is the identity the model takes it for

`tools/extract_forwarders.py` translates every `pub fn` of the four element enums and of the two resolved wrappers
into `Generated/Forwarders.lean` on every run.  The theorems below are re-checked against that table: each
element-level method dispatches on node / token to the method of the same name (with the three documented
exceptions for tokens: `parent` is total, `ancestors` starts at the parent, a token is its own first / last token),
and each navigation or query method of `ResolvedNode` / `ResolvedToken` is one call of the method of the same
name on the wrapped handle with the same arguments. -/

theorem forwarders_elem_ok : Fwd.ElemTableOk Fwd.Generated.elemForwarders := by decide +kernel

theorem forwarders_resolved_ok : Fwd.ResTableOk Fwd.Generated.resolvedForwarders := by decide +kernel

/-- the three token-side exceptions are what the model's path functions do on the path of a token:
    a token is its own first and last token … -/
theorem elem_token_first_last (r : Red) (p : Path) (h : r.isToken p = true) :
    r.elemFirstToken p = Fwd.Arm.sem1 (fun r p => r.elemFirstToken p) .someSelf r p ∧
    r.elemLastToken p = Fwd.Arm.sem1 (fun r p => r.elemLastToken p) .someSelf r p := by
  have hf : walkFuel r p = (walkFuel r p - 1) + 1 := by
    unfold walkFuel; cases r.green p <;> simp
  constructor
  · unfold Red.elemFirstToken; rw [hf]; simp [Red.firstTokenGo, h, Fwd.Arm.sem1]
  · unfold Red.elemLastToken; rw [hf]; simp [Red.lastTokenGo, h, Fwd.Arm.sem1]

/-- … and its chain of ancestors is that of its parent (the parent included), while a node's starts at itself -/
theorem elem_token_ancestors (r : Red) (p : Path) (h : r.isToken p = true) :
    r.ancestors p = (match Red.parent p with | some q => Red.ancestorsOf q (q.length + 1) | none => []) := by
  unfold Red.isToken at h
  unfold Red.ancestors
  cases hg : r.green p with
  | none => simp [hg] at h
  | some g => simp [hg] at h ⊢; simp [h]; rfl

/-- without the same-name discipline the identification fails: a table in which `next_sibling_or_token` of the
    resolved token forwards to another method is rejected -/
example : ¬ Fwd.ResTableOk [⟨"ResolvedToken", "next_sibling_or_token", .other "self.syntax.prev_sibling_or_token()"⟩] := by decide

end Cst.C03
