/-
  C02 — Every red element reports its exact source span.

  Model: `Model/Red` — positions are paths, the red tree's state is the set of materialised
  positions with the offset each *stored at creation*; `get_or_add` trusts its caller; offsets are
  computed along the routes as coded (`children_from`, `children_to`, `Iter`, sibling hops, indexed
  look-ups).  `canon` is the specification: root 0, child `i` at parent offset + Σ lengths before it.
  `Proofs/Red`: the routes, and the relation `Ext` through which every operation is seen to keep the invariant.
-/
import CstModel.Proofs.TokenNav
import CstModel.Proofs.Text
namespace Cst.C02

/-- navigation requests; each is addressed to a position (only requests on materialised positions
    have an effect, exactly like the API, where a request needs a handle) -/
inductive NavOp where
  | firstChild (p : Path) | firstChildOrToken (p : Path) | lastChild (p : Path) | lastChildOrToken (p : Path)
  | nextSibling (p : Path) | nextSiblingOrToken (p : Path) | prevSibling (p : Path) | prevSiblingOrToken (p : Path)
  | children (p : Path) | childrenWithTokens (p : Path)
  | siblings (p : Path) (next : Bool) | siblingsWithTokens (p : Path) (next : Bool)
  | preorder (p : Path) | preorderWithTokens (p : Path) | descendants (p : Path) | descendantsWithTokens (p : Path)
  | firstToken (p : Path) | lastToken (p : Path) | nextToken (p : Path) | prevToken (p : Path)
  | tokenAtOffset (p : Path) (off : Nat) | coveringElement (p : Path) (rg : Nat × Nat)

def NavOp.run : NavOp → Red → Red
  | .firstChild p, r => (r.firstChild p).2
  | .firstChildOrToken p, r => (r.firstChildOrToken p).2
  | .lastChild p, r => (r.lastChild p).2
  | .lastChildOrToken p, r => (r.lastChildOrToken p).2
  | .nextSibling p, r => (r.nextSibling p).2
  | .nextSiblingOrToken p, r => (r.nextSiblingOrToken p).2
  | .prevSibling p, r => (r.prevSibling p).2
  | .prevSiblingOrToken p, r => (r.prevSiblingOrToken p).2
  | .children p, r => (r.children p).2
  | .childrenWithTokens p, r => (r.childrenWithTokens p).2
  | .siblings p n, r => (r.siblings p n).2
  | .siblingsWithTokens p n, r => (r.siblingsWithTokens p n).2
  | .preorder p, r => (r.preorder p).2
  | .preorderWithTokens p, r => (r.preorderWithTokens p).2
  | .descendants p, r => (r.descendants p).2
  | .descendantsWithTokens p, r => (r.descendantsWithTokens p).2
  | .firstToken p, r => (r.firstToken p).2
  | .lastToken p, r => (r.lastToken p).2
  | .nextToken p, r => (r.nextToken p).2
  | .prevToken p, r => (r.prevToken p).2
  | .tokenAtOffset p off, r => (r.tokenAtOffset p off).2
  | .coveringElement p rg, r => (r.coveringElement p rg).2

theorem NavOp.run_ext (op : NavOp) (r : Red) : Ext r (op.run r) := by
  cases op with
  | firstChild p => exact (firstChild_ok r p).ext
  | firstChildOrToken p => exact (firstChildOrToken_ok r p).ext
  | lastChild p => exact (lastChild_ok r p).ext
  | lastChildOrToken p => exact (lastChildOrToken_ok r p).ext
  | nextSibling p => exact (nextSibling_ok r p).ext
  | nextSiblingOrToken p => exact (nextSiblingOrToken_ok r p).ext
  | prevSibling p => exact (prevSibling_ok r p).ext
  | prevSiblingOrToken p => exact (prevSiblingOrToken_ok r p).ext
  | children p => exact children_ext r p
  | childrenWithTokens p => exact childrenWithTokens_ext r p
  | siblings p n => exact siblings_ext r p n
  | siblingsWithTokens p n => exact siblingsWithTokens_ext r p n
  | preorder p => exact preorder_ext r p
  | preorderWithTokens p => exact preorderWithTokens_ext r p
  | descendants p => exact descendants_ext r p
  | descendantsWithTokens p => exact descendantsWithTokens_ext r p
  | firstToken p => exact firstToken_ext r p
  | lastToken p => exact lastToken_ext r p
  | nextToken p => exact nextToken_ext r p
  | prevToken p => exact prevToken_ext r p
  | tokenAtOffset p off => exact tokenAtOffset_ext r p off
  | coveringElement p rg => exact coveringElement_ext r p rg

/-- any history of requests only makes the cache grow -/
theorem history_ext (ops : List NavOp) : ∀ r, Ext r (ops.foldl (fun r op => op.run r) r) := by
  induction ops with
  | nil => exact .refl
  | cons op ops ih => exact fun r => (op.run_ext r).trans (ih _)

/-- **the offset cache is canonical after every history**: whatever sequence of navigation
    requests is made on a fresh red tree — forwards, backwards, by sibling hops, through iterators
    or walks, in any order — every stored offset is the canonical one -/
theorem history_canonical (g : Green) (hg : LenOk g) (ops : List NavOp) :
    RInv (ops.foldl (fun r op => op.run r) (Red.new g)) ∧
      (ops.foldl (fun r op => op.run r) (Red.new g)).root = g :=
  (history_ext ops _).keeps (RInv.new g hg)

/-- **every observed range is the exact span**: in any state reached that way, the range an
    element reports starts at its canonical offset and is as long as its green element — the same
    value whichever route or order of traversal first reached the element -/
theorem observed_range (r : Red) (h : RInv r) (p : Path) (s e : Nat) (hr : r.range p = some (s, e)) :
    canon r.root p = some s ∧ ∃ t, Green.get r.root p = some t ∧ e = s + t.len := by
  unfold Red.range at hr
  cases hs : r.start p with
  | none => simp [hs] at hr
  | some o =>
    cases hg : r.green p with
    | none => simp [hs, hg] at hr
    | some t =>
      simp only [hs, hg, Option.some.injEq, Prod.mk.injEq] at hr
      obtain ⟨rfl, rfl⟩ := hr
      exact ⟨h.canon.start hs, t, hg, rfl⟩

/-- the indexed look-ups with the documented argument keep the cache canonical as well -/
theorem indexed_lookups_canonical (r : Red) (h : RInv r) (p : Path) (n off : Nat)
    (hb : ∃ o, canon r.root p = some o) :
    (DocArg r p (n + 1) off → RInv (r.nextChildAfter p n off).2 ∧ RInv (r.nextChildOrTokenAfter p n off).2) ∧
    (DocArg r p n off → (∀ g, r.green p = some g → n ≤ g.children.length) →
      RInv (r.prevChildBefore p n off).2 ∧ RInv (r.prevChildOrTokenBefore p n off).2) :=
  ⟨fun hd => ⟨(nextChildAfter_ok fun _ => ⟨hb, hd⟩).grow.inv.mp h, (nextChildOrTokenAfter_ok fun _ => ⟨hb, hd⟩).grow.inv.mp h⟩,
   fun hd hn => ⟨(prevChildBefore_ok fun _ => ⟨hb, hd, hn⟩).grow.inv.mp h, (prevChildOrTokenBefore_ok fun _ => ⟨hb, hd, hn⟩).grow.inv.mp h⟩⟩

/-- `children_to` never underflows on its way back: every offset it yields is the canonical one,
    which is a sum of lengths (no subtraction below zero happens on the canonical argument) -/
theorem childrenTo_canonical (cs : List Green) (base endIdx : Nat) (hle : endIdx ≤ cs.length) :
    ∀ e ∈ childrenTo cs endIdx (base + offsetIn cs endIdx), cs[e.2.1]? = some e.1 ∧ e.2.2 = base + offsetIn cs e.2.1 :=
  childrenTo_ok cs base endIdx hle

/-! ### tiling -/

/-- **the children of a node tile its range in order without gap or overlap** -/
theorem tiling (g : Green) (hg : LenOk g) (p : Path) (t : Green) (o : Nat)
    (ht : Green.get g p = some t) (hn : t.isNode = true) (ho : canon g p = some o) :
    (∀ c, t.children[0]? = some c → canon g (p ++ [0]) = some o) ∧
    (∀ i c d, t.children[i]? = some c → t.children[i + 1]? = some d →
      ∃ s, canon g (p ++ [i]) = some s ∧ canon g (p ++ [i + 1]) = some (s + c.len)) ∧
    (∀ i c, t.children[i]? = some c → i + 1 = t.children.length →
      ∃ s, canon g (p ++ [i]) = some s ∧ s + c.len = o + t.len) := by
  refine ⟨?_, ?_, ?_⟩
  · intro c hc
    rw [canon_append_single g p 0 t c o ht hc ho, offsetIn_zero]; rfl
  · intro i c d hc hd
    refine ⟨o + offsetIn t.children i, canon_append_single g p i t c o ht hc ho, ?_⟩
    rw [canon_append_single g p (i + 1) t d o ht hd ho, offsetIn_succ _ _ _ hc]
    congr 1; omega
  · intro i c hc hlast
    refine ⟨o + offsetIn t.children i, canon_append_single g p i t c o ht hc ho, ?_⟩
    have h1 := offsetIn_succ _ _ _ hc
    have h2 : offsetIn t.children (i + 1) = sumLen t.children := offsetIn_length _ _ (by omega)
    have h3 := LenOk_len (LenOk_get hg ht) hn
    omega

/-! ### the text of an element is the slice of the whole text at its range -/

theorem slice_middle (pre mid post : Text) :
    sliceBytes (pre ++ mid ++ post) (blen pre) (blen pre + blen mid) = some mid :=
  sliceBytes_eq_some.mpr ⟨pre, post, rfl, rfl, rfl⟩

theorem textL_append (a b : List Tree) : Tree.textL (a ++ b) = Tree.textL a ++ Tree.textL b := by
  induction a with
  | nil => simp [Tree.textL]
  | cons x xs ih => simp [Tree.textL, ih]

/-- resolving a list of children splits at any index -/
theorem resolveL_split {cfg : Cfg} {I : Interner} (cs : List Green) (ts : List Tree) (i : Nat) (c : Green)
    (hr : resolveL cfg I cs = some ts) (hc : cs[i]? = some c) :
    ∃ pre t post, ts = pre ++ t :: post ∧ resolveL cfg I (cs.take i) = some pre ∧ resolveG cfg I c = some t := by
  induction cs generalizing ts i with
  | nil => simp at hc
  | cons x xs ih =>
    unfold resolveL at hr
    cases hx : resolveG cfg I x with
    | none => simp [hx] at hr
    | some tx =>
      cases hxs : resolveL cfg I xs with
      | none => simp [hx, hxs] at hr
      | some txs =>
        simp only [hx, hxs, Option.some.injEq] at hr
        subst hr
        cases i with
        | zero =>
          simp at hc; subst hc
          exact ⟨[], tx, txs, rfl, by simp [resolveL], hx⟩
        | succ n =>
          simp at hc
          obtain ⟨pre, t, post, h1, h2, h3⟩ := ih txs n hxs hc
          exact ⟨tx :: pre, t, post, by simp [h1], by simp [resolveL, hx, h2], h3⟩

theorem GWfL_take {cfg : Cfg} {I : Interner} {cs : List Green} (h : GWfL cfg I cs) (i : Nat) : GWfL cfg I (cs.take i) := by
  rw [GWfL_iff] at h ⊢
  exact fun g hg => h g (List.mem_of_mem_take hg)

/-- **resolving the text of any element yields exactly the slice of the whole text at its range**:
    the whole text is `pre ++ text(element) ++ post` with `|pre|` = the element's canonical offset -/
theorem text_decomposition {cfg : Cfg} {I : Interner} :
    (p : Path) → (g : Green) → GWf cfg I g → (t : Green) → Green.get g p = some t → (o : Nat) → canon g p = some o →
    ∃ tg tt pre post, resolveG cfg I g = some tg ∧ resolveG cfg I t = some tt ∧
      tg.text = pre ++ tt.text ++ post ∧ blen pre = o
  | [], g, hg, t, ht, o, ho => by
    simp only [Green.get, Option.some.injEq] at ht; subst ht
    simp only [canon, Option.some.injEq] at ho; subst ho
    obtain ⟨tg, hr, _⟩ := resolve_of_GWf g hg
    exact ⟨tg, tg, [], [], hr, hr, by simp, rfl⟩
  | i :: p, g, hg, t, ht, o, ho => by
    simp only [Green.get] at ht
    simp only [canon] at ho
    cases hc : g.children[i]? with
    | none => simp [hc] at ht
    | some c =>
      simp only [hc] at ht ho
      cases hcp : canon c p with
      | none => simp [hcp] at ho
      | some o' =>
        simp only [hcp, Option.map_some, Option.some.injEq] at ho
        cases g with
        | tok _ _ _ _ => simp [Green.children] at hc
        | node id k l hh cs =>
          simp only [Green.children] at hc ho
          simp only [GWf] at hg
          obtain ⟨ts, hts, _⟩ := resolveL_of_GWfL cs hg.2.2
          obtain ⟨pre, tc, post, h1, h2, h3⟩ := resolveL_split cs ts i c hts hc
          have hwc : GWf cfg I c := (GWfL_iff.mp hg.2.2) c (List.mem_of_getElem? hc)
          obtain ⟨tg', tt, pre', post', r1, r2, r3, r4⟩ := text_decomposition p c hwc t ht o' hcp
          rw [h3] at r1; cases r1
          obtain ⟨pre2, hp2, hl2⟩ := resolveL_of_GWfL (cs.take i) (GWfL_take hg.2.2 i)
          rw [h2] at hp2; cases hp2
          refine ⟨.node k ts, tt, Tree.textL pre ++ pre', post' ++ Tree.textL post, by simp [resolveG, hts], r2, ?_, ?_⟩
          · simp only [Tree.text, h1, textL_append, Tree.textL, r3, List.append_assoc]
          · rw [blen_append, r4, ← hl2, ← ho]; simp [offsetIn]; omega

/-- the statement in terms of byte slicing: `&whole_text[range]` does not panic and is the
    element's text; the length of the range is the byte length of that text -/
theorem resolve_text_slice (cfg : Cfg) (I : Interner) (r : Red) (h : RInv r) (hw : GWf cfg I r.root)
    (p : Path) (s e : Nat) (hr : r.range p = some (s, e)) :
    ∃ tg t tt, resolveG cfg I r.root = some tg ∧ Green.get r.root p = some t ∧ resolveG cfg I t = some tt ∧
      sliceBytes tg.text s e = some tt.text ∧ e - s = blen tt.text := by
  obtain ⟨hc, t, ht, he⟩ := observed_range r h p s e hr
  obtain ⟨tg, tt, pre, post, r1, r2, r3, r4⟩ := text_decomposition p r.root hw t ht s hc
  have hwt : GWf cfg I t := GWf_get hw ht
  obtain ⟨tt', r2', hl⟩ := resolve_of_GWf t hwt
  rw [r2] at r2'; cases r2'
  refine ⟨tg, t, tt, r1, ht, r2, ?_, by omega⟩
  rw [r3, he, hl, ← r4]
  exact slice_middle pre tt.text post
where
  GWf_get {cfg : Cfg} {I : Interner} {g : Green} (hw : GWf cfg I g) {p : Path} {t : Green}
      (ht : Green.get g p = some t) : GWf cfg I t := by
    induction p generalizing g with
    | nil => simp [Green.get] at ht; subst ht; exact hw
    | cons i p ih =>
      simp only [Green.get] at ht
      cases hc : g.children[i]? with
      | none => simp [hc] at ht
      | some c =>
        simp only [hc] at ht
        cases g with
        | tok _ _ _ _ => simp [Green.children] at hc
        | node _ _ _ _ cs =>
          simp only [GWf] at hw
          exact ih ((GWfL_iff.mp hw.2.2) c (List.mem_of_getElem? hc)) ht

/-! ### non-vacuity: a tree with an empty node, a zero-length and a multi-byte token, visited
    backwards first and forwards afterwards -/
example :
    let g : Green := .node 0 0 3 0 [.tok 1 10 (some 0) 0, .node 2 1 0 0 [], .tok 3 11 (some 1) 2, .tok 4 12 none 1]
    let r := [NavOp.lastChildOrToken [], .prevSiblingOrToken [3], .prevSiblingOrToken [2], .childrenWithTokens []].foldl
      (fun r op => op.run r) (Red.new g)
    (r.range [0], r.range [1], r.range [2], r.range [3]) = (some (0, 0), some (0, 0), some (0, 2), some (2, 3)) := by
  decide +kernel

end Cst.C02
