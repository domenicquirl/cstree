/-
  C13 — Offset and range queries find the right element.

  Model: `Red.tokenAtOffset`, `Red.coveringElement` (`Model/Query`).  That the queries only extend the cache
  (`Ext`: same tree, stored offsets kept, canonical stays canonical) is known for every operation of the red layer;
  here is what they *return*.  For `token_at_offset` the answer is a function of the green tree alone — the
  non-empty tokens of the sub-tree whose closed range contains the offset (`tao_sim`) — and everything said about it
  is read off the consecutive spans of those tokens.
-/
import CstModel.Proofs.TokenSpec
import CstModel.Proofs.Util
namespace Cst.C13
open Red

theorem range_of {r : Red} {p : Path} {t : Green} {s : Nat} (hg : r.green p = some t) (hs : r.start p = some s) :
    r.range p = some (s, s + t.len) := by
  simp [Red.range, hg, hs]

/-- `find` over the lazy child iterator: what it returns is one of the remaining children and covers the range;
    when it runs off the end every remaining child has been looked at and none covers it -/
theorem findCovering_spec (rg : Nat × Nat) : ∀ (k : Nat) {it : It} {r : Red}, ItOk r it →
    (∀ c, (findCovering rg it r k).1 = some c →
      ∃ j x cr, it.rest[j]? = some x ∧ c = it.parent ++ [it.index + j] ∧
        (findCovering rg it r k).2.range c = some cr ∧ containsRange cr rg = true) ∧
    ((findCovering rg it r k).1 = none → it.rest.length < k → ∀ j, j < it.rest.length →
      ∃ cr, (findCovering rg it r k).2.range (it.parent ++ [it.index + j]) = some cr ∧ containsRange cr rg = false)
  | 0, _, _, _ => ⟨fun _ h => (nomatch h), fun _ h => absurd h (Nat.not_lt_zero _)⟩
  | k + 1, it, r, hi => by
    unfold findCovering It.nextElem
    cases hr : it.rest with
    | nil => exact ⟨fun _ h => (nomatch h), fun _ _ j hj => absurd hj (Nat.not_lt_zero _)⟩
    | cons x rest =>
      obtain ⟨hext, hi', hgx⟩ := hi.step hr
      obtain ⟨o, ho⟩ := Mat.getOrAdd_self r it.parent it.index it.offset
      have hrg := range_of (hext.green _ ▸ hgx) ho
      have ih := findCovering_spec rg k (hi'.ext hext)
      have hext' := findCovering_ext rg k (hi'.ext hext)
      simp only [hrg]
      split
      · next hc =>
        exact ⟨fun c h => ⟨0, x, _, rfl, by cases h; rfl, (by cases h; exact hrg), hc⟩, fun h => nomatch h⟩
      · next hc =>
        refine ⟨fun c h => ?_, fun h hk j hj => ?_⟩
        · obtain ⟨j, y, cr, h1, h2, h3⟩ := ih.1 c h
          exact ⟨j + 1, y, cr, h1, by rw [h2]; simp only [Nat.add_assoc, Nat.add_comm 1], h3⟩
        · cases j with
          | zero => exact ⟨_, hext'.range hrg, by simpa using hc⟩
          | succ j =>
            have := ih.2 h (by simp at hk ⊢; omega) j (by simpa using hj)
            simpa only [Nat.add_assoc, Nat.add_comm 1] using this

/-- `covering_element` descends while some child covers the range: what it returns covers the range and is a
    token or a node none of whose children does -/
theorem cover_spec (n : Nat) (r : Red) (p : Path) (rg : Nat × Nat) (q : Path)
    (h : (coveringGo n r p rg).1 = some q) :
    (∃ qr, (coveringGo n r p rg).2.range q = some qr ∧ containsRange qr rg = true) ∧
    ((coveringGo n r p rg).2.isToken q = true ∨
      ∃ t, (coveringGo n r p rg).2.green q = some t ∧ ∀ j, j < t.children.length →
        ∃ cr, (coveringGo n r p rg).2.range (q ++ [j]) = some cr ∧ containsRange cr rg = false) := by
  fun_induction coveringGo n r p rg with
  | case1 | case2 | case3 | case5 => cases h
  | case4 n r p rg pr hr hc htk => cases h; exact ⟨⟨pr, hr, by simpa using hc⟩, .inl htk⟩
  | case6 n r p rg pr hr hc _ it hi c r' e ih => exact ih h
  | case7 n r p rg pr hr hc _ it hi r' e =>
    cases h
    have hok := iterNew_ok hi
    have hf := findCovering_spec rg (it.rest.length + 1) hok
    have hext := findCovering_ext rg (it.rest.length + 1) hok
    rw [e] at hf hext
    refine ⟨⟨pr, hext.range hr, by simpa using hc⟩, .inr ?_⟩
    unfold iterNew at hi
    split at hi
    · next t o hg hs =>
      cases hi
      exact ⟨t, by rw [hext.green]; exact hg, fun j hj => by simpa using hf.2 rfl (by simp) j hj⟩
    · cases hi
/-- **`covering_element` returns an element whose range contains the given range** -/
theorem cover_contains (n : Nat) (r : Red) (p : Path) (rg : Nat × Nat) (q : Path)
    (h : (coveringGo n r p rg).1 = some q) :
    ∃ qr, (coveringGo n r p rg).2.range q = some qr ∧ containsRange qr rg = true :=
  (cover_spec n r p rg q h).1

/-- **`covering_element` returns the deepest element containing the range**: the result is a token, or
    a node none of whose children (all of them examined, with the ranges they report) contains the range -/
theorem cover_deepest (n : Nat) (r : Red) (p : Path) (rg : Nat × Nat) (q : Path)
    (h : (coveringGo n r p rg).1 = some q) :
    (coveringGo n r p rg).2.isToken q = true ∨
    ∃ t, (coveringGo n r p rg).2.green q = some t ∧
      ∀ j, j < t.children.length →
        ∃ cr, (coveringGo n r p rg).2.range (q ++ [j]) = some cr ∧ containsRange cr rg = false :=
  (cover_spec n r p rg q h).2

/-- **`covering_element` does not panic inside its precondition**: when the starting node's range
    contains the given range (and the walk has enough fuel — the depth of the sub-tree), every
    assertion on the way down holds, because each child it steps into was selected by that very test -/
theorem cover_total (n : Nat) (r : Red) (p : Path) (rg : Nat × Nat) (pr : Nat × Nat) (t : Green)
    (hr : r.range p = some pr) (hc : containsRange pr rg = true) (ht : r.green p = some t) (hfuel : gsize t ≤ n) :
    ∃ q, (coveringGo n r p rg).1 = some q := by
  induction n generalizing r p pr t with
  | zero => cases t <;> simp [gsize] at hfuel
  | succ n ih =>
    obtain ⟨o, ho⟩ := mat_of_range hr
    simp only [coveringGo, hr, hc, Bool.not_true, Bool.false_eq_true, ↓reduceIte, iterNew, ht, ho]
    split
    · exact ⟨p, rfl⟩
    have hok : ItOk r ⟨p, t.children, 0, o⟩ := iterNew_ok (p := p) (by simp [iterNew, ht, ho])
    have hf := (findCovering_spec rg (t.children.length + 1) hok).1
    have hext := findCovering_ext rg (t.children.length + 1) hok
    split
    · next c r' e =>
      rw [e] at hf hext
      obtain ⟨j, x, cr, hx, rfl, hcr, hcc⟩ := hf c rfl
      have hx : t.children[j]? = some x := hx
      refine ih r' _ cr x hcr hcc ?_ (gsize_child (List.mem_of_getElem? hx) hfuel)
      rw [hext.green, Nat.zero_add]
      exact C03.get_child r.root p t ht j x hx
    · exact ⟨p, rfl⟩

/-! ### `token_at_offset`: the children that can contain the offset -/

/-- the non-empty children whose (tiling) range contains `off`, with index and start offset -/
def hitsG (off : Nat) : Nat → Nat → List Green → List (Nat × Nat × Green)
  | _, _, [] => []
  | b, i, c :: cs =>
    (if c.len != 0 && decide (b ≤ off) && decide (off ≤ b + c.len) then [(i, b, c)] else []) ++ hitsG off (b + c.len) (i + 1) cs

theorem hitsG_cons (off b i : Nat) (c : Green) (cs : List Green) :
    hitsG off b i (c :: cs) =
      (if c.len ≠ 0 ∧ b ≤ off ∧ off ≤ b + c.len then [(i, b, c)] else []) ++ hitsG off (b + c.len) (i + 1) cs := by
  simp only [hitsG, Bool.and_eq_true, bne_iff_ne, ne_eq, decide_eq_true_eq, and_assoc]

theorem offsetIn_cons_succ (c : Green) (cs : List Green) (k : Nat) : offsetIn (c :: cs) (k + 1) = c.len + offsetIn cs k := rfl

theorem hitsG_before (off b i : Nat) (cs : List Green) (h : off < b) : hitsG off b i cs = [] := by
  induction cs generalizing b i with
  | nil => rfl
  | cons c cs ih => rw [hitsG_cons, if_neg (by omega), ih _ _ (by omega)]; rfl

theorem hitsG_empty (off b i : Nat) (cs : List Green) (h : sumLen cs = 0) : hitsG off b i cs = [] := by
  induction cs generalizing b i with
  | nil => rfl
  | cons c cs ih =>
    rw [sumLen] at h
    rw [hitsG_cons, if_neg (fun h' => h'.1 (by omega)), ih _ _ (by omega)]; rfl

theorem hitsG_mem (off b i : Nat) (cs : List Green) (x : Nat × Nat × Green) (h : x ∈ hitsG off b i cs) :
    ∃ k, cs[k]? = some x.2.2 ∧ x.1 = i + k ∧ x.2.1 = b + offsetIn cs k ∧
      x.2.2.len ≠ 0 ∧ x.2.1 ≤ off ∧ off ≤ x.2.1 + x.2.2.len := by
  induction cs generalizing b i with
  | nil => cases h
  | cons c cs ih =>
    rw [hitsG_cons] at h
    rcases List.mem_append.mp h with h | h
    · split at h
      · next hc => cases List.mem_singleton.mp h; exact ⟨0, rfl, rfl, rfl, hc⟩
      · cases h
    · obtain ⟨k, h1, h2, h3, h4⟩ := ih _ _ h
      exact ⟨k + 1, h1, by omega, by rw [h3, offsetIn_cons_succ]; omega, h4⟩

/-- **one or two children**: inside a non-empty node the children tile its range, so the non-empty
    children whose closed range contains the offset are exactly one — or exactly two that meet at the
    offset, and then the offset is strictly inside the node.  (For the induction: at the very start of the
    list it is one, and it starts there.) -/
theorem hitsG_shape_aux (off : Nat) : ∀ (cs : List Green) (b i : Nat), b ≤ off → off ≤ b + sumLen cs → 0 < sumLen cs →
    (∃ x, hitsG off b i cs = [x] ∧ (off = b → x.2.1 = off)) ∨
    (∃ x y, hitsG off b i cs = [x, y] ∧ x.2.1 + x.2.2.len = off ∧ y.2.1 = off ∧ b < off ∧ off < b + sumLen cs) := by
  intro cs
  induction cs with
  | nil => intro b i _ _ h3; exact absurd h3 (Nat.lt_irrefl 0)
  | cons c cs ih =>
    intro b i h1 h2 h3
    rw [sumLen, ← Nat.add_assoc] at h2
    rw [hitsG_cons, sumLen, ← Nat.add_assoc]
    by_cases hc0 : c.len = 0
    · -- an empty child: skipped
      rw [sumLen, hc0, Nat.zero_add] at h3
      rw [hc0, Nat.add_zero] at h2 ⊢
      rw [if_neg (fun h => h.1 rfl), List.nil_append]
      exact ih b (i + 1) h1 h2 h3
    · have hb : b < b + c.len := Nat.lt_add_of_pos_right (Nat.pos_of_ne_zero hc0)
      rcases Nat.lt_trichotomy off (b + c.len) with hlt | heq | hgt
      · -- strictly before the end of this child: it is the only one
        rw [if_pos ⟨hc0, h1, Nat.le_of_lt hlt⟩, hitsG_before off _ _ cs hlt]
        exact Or.inl ⟨_, rfl, fun h => h.symm⟩
      · -- exactly at the end of this child: the next non-empty one, if any, starts here
        rw [if_pos ⟨hc0, h1, Nat.le_of_eq heq⟩]
        by_cases hs0 : sumLen cs = 0
        · rw [hitsG_empty off _ _ cs hs0]
          exact Or.inl ⟨_, rfl, fun h => h.symm⟩
        · have hs := Nat.pos_of_ne_zero hs0
          rcases ih (b + c.len) (i + 1) (Nat.le_of_eq heq.symm) h2 hs with ⟨y, hy, hys⟩ | ⟨_, _, _, _, _, hlt', _⟩
          · exact Or.inr ⟨_, y, by rw [hy]; rfl, heq.symm, hys heq, heq ▸ hb, heq ▸ Nat.lt_add_of_pos_right hs⟩
          · exact absurd heq (Nat.ne_of_gt hlt')
      · -- past this child
        rw [if_neg (fun h => Nat.not_le_of_gt hgt h.2.2), List.nil_append]
        have hs : 0 < sumLen cs := Nat.pos_of_ne_zero fun h0 => by rw [h0] at h2; exact Nat.not_le_of_gt hgt h2
        rcases ih (b + c.len) (i + 1) (Nat.le_of_lt hgt) h2 hs with ⟨x, hx, _⟩ | ⟨x, y, hh, e1, e2, _, e4⟩
        · exact Or.inl ⟨x, hx, fun h => absurd (h ▸ hgt) (Nat.not_lt_of_gt hb)⟩
        · exact Or.inr ⟨x, y, hh, e1, e2, Nat.lt_trans hb hgt, e4⟩

theorem hitsG_shape (off b i : Nat) (cs : List Green) (h1 : b ≤ off) (h2 : off ≤ b + sumLen cs) (h3 : 0 < sumLen cs) :
    (∃ x, hitsG off b i cs = [x]) ∨
    (∃ x y, hitsG off b i cs = [x, y] ∧ x.2.1 + x.2.2.len = off ∧ y.2.1 = off ∧ b < off ∧ off < b + sumLen cs) :=
  (hitsG_shape_aux off cs b i h1 h2 h3).imp (fun ⟨x, hx, _⟩ => ⟨x, hx⟩) id

/-! ### what `children_with_tokens` leaves behind -/

/-- every child the iterator walks over is materialised afterwards -/
theorem collectElems_mat : ∀ (k : Nat) {it : It} {r : Red}, ItOk r it → it.rest.length < k → ∀ j, j < it.rest.length →
    Mat (collectElems it r k).2 (it.parent ++ [it.index + j])
  | 0, _, _, _, hk, _, _ => absurd hk (Nat.not_lt_zero _)
  | k + 1, it, r, hi, hk, j, hj => by
    unfold collectElems It.nextElem
    cases hr : it.rest with
    | nil => rw [hr] at hj; cases hj
    | cons c rest =>
      obtain ⟨hext, hi', _⟩ := hi.step hr
      rw [hr] at hk hj
      cases j with
      | zero => exact (collectElems_ext k (hi'.ext hext)).mat (Mat.getOrAdd_self ..)
      | succ j =>
        have := collectElems_mat k (hi'.ext hext) (Nat.lt_of_succ_lt_succ hk) j (Nat.lt_of_succ_lt_succ hj)
        simpa only [Nat.add_assoc, Nat.add_comm 1] using this

/-- **after `children_with_tokens`**: the result lists all children in order, the red tree is still
    canonical, and every child reports the tiling range `start + Σ len(earlier siblings)` -/
theorem children_ranges {r : Red} (hr : RInv r) (p : Path) (t : Green) (s : Nat)
    (hg : r.green p = some t) (hs : r.start p = some s) :
    (r.childrenWithTokens p).1 = (List.range t.children.length).map (fun j => p ++ [j]) ∧
    RInv (r.childrenWithTokens p).2 ∧ (r.childrenWithTokens p).2.root = r.root ∧
    ∀ i c, t.children[i]? = some c →
      (r.childrenWithTokens p).2.start (p ++ [i]) = some (s + offsetIn t.children i) ∧
      (r.childrenWithTokens p).2.green (p ++ [i]) = some c := by
  have hext := childrenWithTokens_ext r p
  have hk := hext.keeps hr
  refine ⟨?_, hk.1, hk.2, fun i c hc => ?_⟩
  · simp only [Red.childrenWithTokens, iterNew, hg, hs]
    rw [C03.collectElems_spec _ _ _ (by simp)]
    simp [List.range_eq_range']
  · have hgc : r.green (p ++ [i]) = some c := C03.get_child r.root p t hg i c hc
    refine ⟨?_, by rw [hext.green]; exact hgc⟩
    have hi : iterNew r p = some ⟨p, t.children, 0, s⟩ := by simp [iterNew, hg, hs]
    obtain ⟨o, ho⟩ : Mat (r.childrenWithTokens p).2 (p ++ [i]) := by
      have := collectElems_mat (t.children.length + 1) (iterNew_ok hi) (by simp) i (List.getElem?_eq_some_iff.mp hc).1
      simpa [Red.childrenWithTokens, hi] using this
    rw [ho, ← hk.1.canon.start ho, hk.2, canon_append_single r.root p i t c s hg hc (hr.canon.start hs)]

/-! ### the filter of `token_at_offset` is `hitsG` -/

/-- a test on child indices that says of child `i + k` what `hitsG` tests of `cs[k]` selects the indices of `hitsG` -/
theorem filter_range_hitsG (off : Nat) (f : Nat → Bool) : ∀ (cs : List Green) (b i : Nat),
    (∀ k c, cs[k]? = some c →
      f (i + k) = (c.len != 0 && decide (b + offsetIn cs k ≤ off) && decide (off ≤ b + offsetIn cs k + c.len))) →
    (List.range' i cs.length).filter f = (hitsG off b i cs).map (·.1)
  | [], _, _, _ => rfl
  | c :: cs, b, i, h => by
    have h0 := h 0 c rfl
    rw [offsetIn_zero, Nat.add_zero, Nat.add_zero] at h0
    rw [List.length_cons, List.range'_succ, List.filter_cons, h0, hitsG, List.map_append,
      ← filter_range_hitsG off f cs (b + c.len) (i + 1) fun k c' hk => by
        rw [Nat.add_assoc, Nat.add_comm 1, h (k + 1) c' hk, offsetIn_cons_succ]; simp only [Nat.add_assoc]]
    split <;> rfl

theorem ne_add_iff (a l : Nat) : (a != a + l) = (l != 0) := by
  cases l <;> simp

/-- the children `token_at_offset` keeps are the non-empty ones whose tiling range contains the offset -/
theorem filter_children {r : Red} (hr : RInv r) (p : Path) (t : Green) (s off : Nat)
    (hg : r.green p = some t) (hs : r.start p = some s) :
    (r.childrenWithTokens p).1.filter (nonEmptyContaining (r.childrenWithTokens p).2 off) =
      (hitsG off s 0 t.children).map (fun x => p ++ [x.1]) := by
  obtain ⟨hcs, _, _, hch⟩ := children_ranges hr p t s hg hs
  rw [hcs, List.filter_map, List.range_eq_range', filter_range_hitsG off _ t.children s 0, List.map_map]
  · rfl
  · intro k c hc
    obtain ⟨h1, h2⟩ := hch k c hc
    simp only [Nat.zero_add, Function.comp, nonEmptyContaining, Red.range, h1, h2, ne_add_iff]

/-! ### the tokens of the sub-tree that the offset touches -/

/-- a leaf (token with its span) that is non-empty and whose closed range contains the offset -/
def hitLeaf (off : Nat) (x : Path × Nat × Green) : Bool :=
  x.2.2.len != 0 && decide (x.2.1 ≤ off) && decide (off ≤ x.2.1 + x.2.2.len)

theorem hitLeaf_iff {off : Nat} {x : Path × Nat × Green} :
    hitLeaf off x = true ↔ x.2.2.len ≠ 0 ∧ x.2.1 ≤ off ∧ off ≤ x.2.1 + x.2.2.len := by
  simp only [hitLeaf, Bool.and_eq_true, bne_iff_ne, ne_eq, decide_eq_true_eq, and_assoc]

/-- consecutive spans, seen as the children of one node: the hit leaves are what `hitsG` selects -/
theorem chain_hits {o e : Nat} {L : List (Path × Nat × Green)} (h : Chain o L e) (off i : Nat) :
    (L.filter (hitLeaf off)).map (·.2) = (hitsG off o i (L.map (·.2.2))).map (·.2) ∧
    e = o + sumLen (L.map (·.2.2)) := by
  induction L generalizing o i with
  | nil => exact ⟨rfl, h.symm⟩
  | cons x xs ih =>
    obtain ⟨rfl, h2⟩ := h
    obtain ⟨ih1, ih2⟩ := ih h2 (i + 1)
    refine ⟨?_, by rw [ih2, List.map_cons, sumLen, Nat.add_assoc]⟩
    rw [List.map_cons, hitsG_cons, List.map_append, ← ih1, List.filter_cons]
    by_cases hx : hitLeaf off x = true
    · rw [if_pos hx, if_pos (hitLeaf_iff.mp hx)]; rfl
    · rw [if_neg hx, if_neg (fun h' => hx (hitLeaf_iff.mpr h'))]; rfl

/-- **one or two tokens**: among consecutive spans from `o` to `e > o`, the non-empty ones whose closed range contains
    an offset in `[o, e]` are exactly one — or exactly two that meet at the offset, strictly inside `(o, e)` -/
theorem hitLeaves_shape {o e off : Nat} {L : List (Path × Nat × Green)} (h : Chain o L e)
    (h1 : o ≤ off) (h2 : off ≤ e) (h3 : o < e) :
    (∃ x, L.filter (hitLeaf off) = [x]) ∨
    (∃ x y, L.filter (hitLeaf off) = [x, y] ∧ x.2.1 + x.2.2.len = off ∧ y.2.1 = off ∧ o < off ∧ off < e) := by
  obtain ⟨hm, he⟩ := chain_hits h off 0
  subst he
  rcases hitsG_shape off o 0 _ h1 h2 (by omega) with ⟨x', hx'⟩ | ⟨x', y', hxy, e1, e2, e3, e4⟩
  · rw [hx'] at hm
    obtain ⟨x, hx, _⟩ := List.map_eq_singleton_iff.mp hm
    exact .inl ⟨x, hx⟩
  · rw [hxy] at hm
    obtain ⟨x, l, hx, hx', hl⟩ := List.map_eq_cons_iff.mp hm
    obtain ⟨y, rfl, hy'⟩ := List.map_eq_singleton_iff.mp hl
    exact .inr ⟨x, y, hx, by rw [hx']; exact e1, by rw [hy']; exact e2, e3, e4⟩

/-- an offset at either end of the spans touches one non-empty span only -/
theorem hitLeaves_edge {o e off : Nat} {L : List (Path × Nat × Green)} (h : Chain o L e) (h3 : o < e)
    (hoff : off = o ∨ off = e) : ∃ x, L.filter (hitLeaf off) = [x] := by
  rcases hoff with rfl | rfl
  · exact (hitLeaves_shape h (Nat.le_refl _) (Nat.le_of_lt h3) h3).resolve_right
      fun ⟨_, _, _, _, _, h1, _⟩ => Nat.lt_irrefl _ h1
  · exact (hitLeaves_shape h (Nat.le_of_lt h3) (Nat.le_refl _) h3).resolve_right
      fun ⟨_, _, _, _, _, _, h2⟩ => Nat.lt_irrefl _ h2

theorem chain_bounds {o e : Nat} {L : List (Path × Nat × Green)} (h : Chain o L e) :
    o ≤ e ∧ ∀ x ∈ L, o ≤ x.2.1 ∧ x.2.1 + x.2.2.len ≤ e := by
  induction L generalizing o with
  | nil => cases h; exact ⟨Nat.le_refl _, fun _ hx => nomatch hx⟩
  | cons y ys ih =>
    obtain ⟨rfl, h2⟩ := h
    obtain ⟨i1, i2⟩ := ih h2
    refine ⟨by omega, fun x hx => ?_⟩
    rcases List.mem_cons.mp hx with rfl | hx
    · exact ⟨Nat.le_refl _, i1⟩
    · exact ⟨by have := (i2 x hx).1; omega, (i2 x hx).2⟩

/-- a sub-tree that is empty or whose range does not contain the offset has no such leaf -/
theorem leaves_nohit (off : Nat) (q : Path) (o : Nat) (c : Green) (hl : LenOk c)
    (h : ¬ (c.len ≠ 0 ∧ o ≤ off ∧ off ≤ o + c.len)) : (leaves q o c).filter (hitLeaf off) = [] := by
  rw [List.filter_eq_nil_iff]
  intro x hx hh
  have := (chain_bounds (leaves_chain c q o hl)).2 x hx
  have := hitLeaf_iff.mp hh
  omega

/-- the hit leaves of a node are those of its hit children -/
theorem filter_leavesL (off : Nat) (p : Path) : ∀ (cs : List Green) (i o : Nat), LenOkL cs →
    (leavesL p i o cs).filter (hitLeaf off) =
      (hitsG off o i cs).flatMap (fun x => (leaves (p ++ [x.1]) x.2.1 x.2.2).filter (hitLeaf off))
  | [], _, _, _ => rfl
  | c :: cs, i, o, hl => by
    rw [leavesL, List.filter_append, hitsG_cons, List.flatMap_append, filter_leavesL off p cs (i + 1) (o + c.len) hl.2]
    congr 1
    split
    · simp
    · next hc => exact leaves_nohit off _ o c hl.1 hc

theorem filter_leaves (off : Nat) (p : Path) (s : Nat) {t : Green} (hl : LenOk t) (hn : t.isNode = true) :
    (leaves p s t).filter (hitLeaf off) =
      (hitsG off s 0 t.children).flatMap (fun x => (leaves (p ++ [x.1]) x.2.1 x.2.2).filter (hitLeaf off)) := by
  cases t with
  | tok _ _ _ _ => cases hn
  | node _ _ _ _ cs => exact filter_leavesL off p cs 0 s (LenOk_children hl)

theorem filter_leaves_tok (off : Nat) (p : Path) (s : Nat) {t : Green} (hn : t.isNode = false)
    (h : t.len ≠ 0 ∧ s ≤ off ∧ off ≤ s + t.len) : (leaves p s t).filter (hitLeaf off) = [(p, s, t)] := by
  cases t with
  | node _ _ _ _ _ => cases hn
  | tok _ _ _ _ => rw [leaves, List.filter_cons, if_pos (hitLeaf_iff.mpr h)]; rfl

/-! ### `token_at_offset` computes the hit tokens -/

def resPaths : TAO → List Path
  | .single q => [q]
  | .between l q => [l, q]
  | _ => []

/-- the answer that stands for a list of tokens; more than two cannot be answered -/
def ofPaths : List Path → TAO
  | [] => .none
  | [q] => .single q
  | [l, q] => .between l q
  | _ => .panic

/-- **`token_at_offset` on a canonical red tree**, for an offset inside the element's range: a token answers itself; any
    other element answers with the non-empty tokens of its sub-tree whose closed range contains the offset (`leaves`
    lists the tokens with their spans), in source order — there are at most two; and the tokens of the answer are
    materialised.  The children to descend into are `hitsG` (one or two); a child that ends, or starts, at the offset
    has exactly one such token, which is why the `unreachable!()` after two descents is not reached. -/
theorem tao_sim : ∀ (n : Nat) (r : Red) (p : Path) (t : Green) (s off : Nat), RInv r → r.green p = some t →
    r.start p = some s → gsize t ≤ n → s ≤ off → off ≤ s + t.len →
    (t.isNode = false → (tokenAtOffsetGo n r p off).1 = .single p) ∧
    (t.isNode = true ∨ t.len ≠ 0 →
      (tokenAtOffsetGo n r p off).1 = ofPaths (((leaves p s t).filter (hitLeaf off)).map (·.1))) ∧
    ∀ q ∈ resPaths (tokenAtOffsetGo n r p off).1, Mat (tokenAtOffsetGo n r p off).2 q
  | 0, _, _, t, _, _, _, _, _, hsz, _, _ => by cases t <;> simp [gsize] at hsz
  | n + 1, r, p, t, s, off, hr, hg, hs, hsz, h1, h2 => by
    have hrange := range_of hg hs
    have htok := isToken_eq hg
    have hin : (decide (s ≤ off) && decide (off ≤ s + t.len)) = true := by simp [h1, h2]
    have hlen : LenOk t := LenOk_get hr.lens hg
    cases hnode : t.isNode with
    | false =>
      have hres : tokenAtOffsetGo (n + 1) r p off = (.single p, r) := by
        simp [tokenAtOffsetGo, hrange, hin, htok, hnode]
      rw [hres]
      refine ⟨fun _ => rfl, fun h => ?_, fun q hq => ?_⟩
      · rw [filter_leaves_tok off p s hnode ⟨h.resolve_left (fun h => nomatch h), h1, h2⟩]; rfl
      · cases List.mem_singleton.mp hq; exact ⟨s, hs⟩
    | true =>
      refine ⟨fun h => (nomatch h), ?_⟩
      by_cases hl0 : t.len = 0
      · have hres : tokenAtOffsetGo (n + 1) r p off = (.none, r) := by
          simp [tokenAtOffsetGo, hrange, htok, hnode, hl0, h1, (by omega : off ≤ s)]
        rw [hres, leaves_nohit off p s t hlen (fun h => h.1 hl0)]
        exact ⟨fun _ => rfl, fun q hq => nomatch hq⟩
      · have hsum : t.len = sumLen t.children := LenOk_len hlen hnode
        obtain ⟨_, hr1, _, hch⟩ := children_ranges hr p t s hg hs
        have hfilter := filter_children hr p t s off hg hs
        have hne : (s == s + t.len) = false := by simp; omega
        have hleaves := filter_leaves off p s hlen hnode
        -- descending into a hit child, in any later state, answers with the hit leaves of the child
        have hdesc : ∀ x ∈ hitsG off s 0 t.children, ∀ r', RInv r' → Ext (r.childrenWithTokens p).2 r' →
            LenOk x.2.2 ∧ x.2.2.len ≠ 0 ∧
            (tokenAtOffsetGo n r' (p ++ [x.1]) off).1 =
              ofPaths (((leaves (p ++ [x.1]) x.2.1 x.2.2).filter (hitLeaf off)).map (·.1)) ∧
            ∀ q ∈ resPaths (tokenAtOffsetGo n r' (p ++ [x.1]) off).1, Mat (tokenAtOffsetGo n r' (p ++ [x.1]) off).2 q := by
          intro x hx r' hr' hext
          obtain ⟨k, hk1, hk2, hk3, c0, clo, chi⟩ := hitsG_mem off s 0 t.children x hx
          obtain ⟨cst, cg⟩ := hch k x.2.2 hk1
          rw [Nat.zero_add] at hk2
          subst hk2
          rw [← hk3] at cst
          have hs := tao_sim n r' _ x.2.2 x.2.1 off hr' (hext.green _ ▸ cg) (hext.start cst)
            (gsize_child (List.mem_of_getElem? hk1) hsz) clo chi
          exact ⟨LenOk_get hr1.lens cg, c0, hs.2.1 (.inr c0), hs.2.2⟩
        rcases hitsG_shape off s 0 t.children h1 (hsum ▸ h2) (hsum ▸ Nat.pos_of_ne_zero hl0) with ⟨x, hx⟩ | ⟨x, y, hxy, ex, ey, _, _⟩
        · -- one child: its answer is the answer
          have hres : tokenAtOffsetGo (n + 1) r p off = tokenAtOffsetGo n (r.childrenWithTokens p).2 (p ++ [x.1]) off := by
            simp only [tokenAtOffsetGo, hrange, hin, htok, hnode, hne, Bool.not_true, Bool.false_eq_true, ↓reduceIte]
            rw [hfilter, hx]; rfl
          obtain ⟨_, _, a1, a2⟩ := hdesc x (by rw [hx]; exact .head _) _ hr1 (.refl _)
          rw [hres, hleaves, hx, List.flatMap_singleton]
          exact ⟨fun _ => a1, a2⟩
        · -- two children meeting at the offset: the left one ends there, the right one starts there, so each has one hit leaf
          have hext12 := tokenAtOffsetGo_ext n (r.childrenWithTokens p).2 (p ++ [x.1]) off
          have hext23 := tokenAtOffsetGo_ext n (tokenAtOffsetGo n (r.childrenWithTokens p).2 (p ++ [x.1]) off).2 (p ++ [y.1]) off
          obtain ⟨xl, x0, a1, a2⟩ := hdesc x (by rw [hxy]; exact .head _) _ hr1 (.refl _)
          obtain ⟨yl, y0, b1, b2⟩ := hdesc y (by rw [hxy]; exact .tail _ (.head _)) _ (hext12.keeps hr1).1 hext12
          obtain ⟨u, hu⟩ := hitLeaves_edge (off := off) (leaves_chain x.2.2 (p ++ [x.1]) x.2.1 xl)
            (Nat.lt_add_of_pos_right (Nat.pos_of_ne_zero x0)) (.inr ex.symm)
          obtain ⟨v, hv⟩ := hitLeaves_edge (off := off) (leaves_chain y.2.2 (p ++ [y.1]) y.2.1 yl)
            (Nat.lt_add_of_pos_right (Nat.pos_of_ne_zero y0)) (.inl ey.symm)
          rw [hu] at a1
          rw [hv] at b1
          have hres : tokenAtOffsetGo (n + 1) r p off = (.between u.1 v.1,
              (tokenAtOffsetGo n (tokenAtOffsetGo n (r.childrenWithTokens p).2 (p ++ [x.1]) off).2 (p ++ [y.1]) off).2) := by
            simp only [tokenAtOffsetGo, hrange, hin, htok, hnode, hne, Bool.not_true, Bool.false_eq_true, ↓reduceIte]
            rw [hfilter, hxy]
            simp only [List.map_cons, List.map_nil]
            rw [a1, b1]; rfl
          rw [hres, hleaves, hxy]
          refine ⟨fun _ => by simp [hu, hv, ofPaths], fun q hq => ?_⟩
          rcases List.mem_cons.mp hq with rfl | hq
          · exact hext23.mat (a2 _ (by rw [a1]; exact .head _))
          · cases List.mem_singleton.mp hq; exact b2 _ (by rw [b1]; exact .head _)

/-! ### `token_at_offset` is total inside its precondition and returns the right tokens -/

/-- a non-empty token whose closed range contains the offset and lies inside `[s, e]` -/
def TokAt (r : Red) (s e off : Nat) (q : Path) (a b : Nat) : Prop :=
  r.isToken q = true ∧ r.range q = some (a, b) ∧ a ≠ b ∧ a ≤ off ∧ off ≤ b ∧ s ≤ a ∧ b ≤ e

/-- what a correct answer for a non-empty node with range `[s, e]` looks like -/
def TaoOk (r : Red) (s e off : Nat) : TAO → Prop
  | .single q => ∃ a b, TokAt r s e off q a b
  | .between l q => ∃ a b, TokAt r s e off l a off ∧ TokAt r s e off q off b ∧ s < off ∧ off < e
  | _ => False

/-- the answer for a non-empty node, and the spans of its tokens -/
theorem tao_node (r : Red) (hr : RInv r) (p : Path) (t : Green) (s off : Nat) (hg : r.green p = some t)
    (hs : r.start p = some s) (h1 : s ≤ off) (h2 : off ≤ s + t.len) (hn : t.isNode = true) (hl : 0 < t.len) :
    (∃ x ∈ leaves p s t, hitLeaf off x = true ∧ (leaves p s t).filter (hitLeaf off) = [x] ∧
      (r.tokenAtOffset p off).1 = .single x.1) ∨
    (∃ x ∈ leaves p s t, ∃ y ∈ leaves p s t, hitLeaf off x = true ∧ hitLeaf off y = true ∧
      (leaves p s t).filter (hitLeaf off) = [x, y] ∧ (r.tokenAtOffset p off).1 = .between x.1 y.1 ∧
      x.2.1 + x.2.2.len = off ∧ y.2.1 = off ∧ s < off ∧ off < s + t.len) := by
  have hfuel : gsize t ≤ walkFuel r p := by simp [walkFuel, hg]; omega
  have hsim := (tao_sim (walkFuel r p) r p t s off hr hg hs hfuel h1 h2).2.1 (.inl hn)
  unfold Red.tokenAtOffset
  rcases hitLeaves_shape (leaves_chain t p s (LenOk_get hr.lens hg)) h1 h2 (by omega) with ⟨x, hx⟩ | ⟨x, y, hxy, e⟩
  · have := List.mem_filter.mp (hx ▸ List.mem_singleton_self x)
    exact .inl ⟨x, this.1, this.2, hx, by rw [hsim, hx]; rfl⟩
  · have hx := List.mem_filter.mp (hxy ▸ List.mem_cons_self)
    have hy := List.mem_filter.mp (hxy ▸ List.mem_cons_of_mem _ List.mem_cons_self)
    exact .inr ⟨x, hx.1, y, hy.1, hx.2, hy.2, hxy, by rw [hsim, hxy]; rfl, e⟩

/-- **`token_at_offset` never panics inside its precondition** (any canonical red tree, any element, any
    offset within the element's range; the fuel the model uses is enough) -/
theorem tao_total (r : Red) (hr : RInv r) (p : Path) (t : Green) (s off : Nat) (hg : r.green p = some t)
    (hs : r.start p = some s) (h1 : s ≤ off) (h2 : off ≤ s + t.len) : (r.tokenAtOffset p off).1 ≠ .panic := by
  have hfuel : gsize t ≤ walkFuel r p := by simp [walkFuel, hg]; omega
  have hsim := tao_sim (walkFuel r p) r p t s off hr hg hs hfuel h1 h2
  cases hn : t.isNode with
  | false => rw [Red.tokenAtOffset, hsim.1 hn]; exact fun h => nomatch h
  | true =>
    by_cases hl : t.len = 0
    · rw [Red.tokenAtOffset, hsim.2.1 (.inl hn), leaves_nohit off p s t (LenOk_get hr.lens hg) (fun h => h.1 hl)]
      exact fun h => nomatch h
    · rcases tao_node r hr p t s off hg hs h1 h2 hn (Nat.pos_of_ne_zero hl) with ⟨_, _, _, _, h⟩ | ⟨_, _, _, _, _, _, _, h, _⟩ <;>
        rw [h] <;> exact fun h => nomatch h

/-- a hit leaf that the answer's state has materialised is a token with the span `leaves` records -/
theorem tokAt_of_hit {r r' : Red} (hr : RInv r) (hext : Ext r r') {p : Path} {t : Green} {s off : Nat}
    (hg : r.green p = some t) (hs : r.start p = some s) {x : Path × Nat × Green} (hx : x ∈ leaves p s t)
    (hh : hitLeaf off x = true) (hm : Mat r' x.1) : TokAt r' s (s + t.len) off x.1 x.2.1 (x.2.1 + x.2.2.len) := by
  obtain ⟨f1, f2, f3⟩ := leaves_facts r.root t p s hg (hr.canon.start hs) x hx
  obtain ⟨b1, b2⟩ := (chain_bounds (leaves_chain t p s (LenOk_get hr.lens hg))).2 x hx
  obtain ⟨c0, clo, chi⟩ := hitLeaf_iff.mp hh
  obtain ⟨o, ho⟩ := hm
  have hg' : r'.green x.1 = some x.2.2 := by rw [hext.green]; exact f1
  have : o = x.2.1 := by
    have := (hext.keeps hr).1.canon.start ho
    rw [hext.root, f3] at this
    exact (Option.some.inj this).symm
  subst this
  exact ⟨by simp [Red.isToken, hg', f2], range_of hg' ho, by omega, clo, chi, b1, b2⟩

/-- **`token_at_offset` returns the right tokens**: `None` exactly for an empty node; otherwise one
    non-empty token of the tree whose closed range contains the offset, or the two that meet at it -/
theorem tao_spec (r : Red) (hr : RInv r) (p : Path) (t : Green) (s off : Nat) (hg : r.green p = some t)
    (hs : r.start p = some s) (h1 : s ≤ off) (h2 : off ≤ s + t.len) (hn : t.isNode = true) :
    (t.len = 0 → (r.tokenAtOffset p off).1 = .none) ∧
    (0 < t.len → TaoOk (r.tokenAtOffset p off).2 s (s + t.len) off (r.tokenAtOffset p off).1) := by
  have hfuel : gsize t ≤ walkFuel r p := by simp [walkFuel, hg]; omega
  have hsim := tao_sim (walkFuel r p) r p t s off hr hg hs hfuel h1 h2
  have hext := tokenAtOffset_ext r p off
  refine ⟨fun hl => ?_, fun hl => ?_⟩
  · rw [Red.tokenAtOffset, hsim.2.1 (.inl hn), leaves_nohit off p s t (LenOk_get hr.lens hg) (fun h => h.1 hl)]; rfl
  · have hmat : ∀ q ∈ resPaths (r.tokenAtOffset p off).1, Mat (r.tokenAtOffset p off).2 q := hsim.2.2
    rcases tao_node r hr p t s off hg hs h1 h2 hn hl with ⟨x, hx, hh, _, h⟩ | ⟨x, hx, y, hy, hhx, hhy, _, h, ex, ey, e⟩
    · rw [h] at hmat ⊢
      exact ⟨_, _, tokAt_of_hit hr hext hg hs hx hh (hmat _ (.head _))⟩
    · rw [h] at hmat ⊢
      have tx := tokAt_of_hit hr hext hg hs hx hhx (hmat _ (.head _))
      have ty := tokAt_of_hit hr hext hg hs hy hhy (hmat _ (.tail _ (.head _)))
      rw [ex] at tx
      rw [ey] at ty
      exact ⟨_, _, tx, ty, e⟩

/-- **`token_at_offset` returns all of them**: the tokens it answers with are *exactly* the non-empty tokens
    of the sub-tree whose closed range contains the offset, in source order (`leaves` lists the tokens of
    the sub-tree with their spans) — one token, or the two that meet at the offset -/
theorem tao_complete (r : Red) (hr : RInv r) (p : Path) (t : Green) (s off : Nat) (hg : r.green p = some t)
    (hs : r.start p = some s) (h1 : s ≤ off) (h2 : off ≤ s + t.len) (hn : t.isNode = true) (hl : 0 < t.len) :
    ((leaves p s t).filter (hitLeaf off)).map (·.1) = resPaths (r.tokenAtOffset p off).1 := by
  rcases tao_node r hr p t s off hg hs h1 h2 hn hl with ⟨_, _, _, hf, h⟩ | ⟨_, _, _, _, _, _, hf, h, _⟩ <;>
    rw [hf, h] <;> rfl

/-! ### non-vacuity: an empty node and a zero-length token at a boundary -/
example :
    let g : Green := .node 0 0 2 0 [.tok 1 10 (some 0) 1, .node 2 1 0 0 [], .tok 3 10 (some 1) 0, .tok 4 11 (some 0) 1]
    ((Red.new g).tokenAtOffset [] 1).1 = .between [0] [3] ∧ ((Red.new g).coveringElement [] (1, 1)).1 = some [0] ∧
    ((Red.new g).tokenAtOffset [] 3).1 = .panic := by
  decide +kernel

/-! ### the answer as an iterator (`utility_types.rs`)

`TokenAtOffset` is handed out as an `ExactSizeIterator`.  Whatever way a caller consumes it — `next`, `nth`, `last`,
`count`, the biased accessors, `map` — it sees the tokens of `tao_complete`, in order, with exact size reports. -/

/-- the tokens an answer stands for, as `Model/Util`'s iterator -/
def asIter : TAO → Util.TAO Path
  | .none | .panic => .none
  | .single x => .single x
  | .between x y => .between x y

theorem asIter_toList (t : TAO) : (asIter t).toList = resPaths t := by
  cases t <;> rfl

/-- **consuming the answer**: stepping, skipping, `last`, `count`, the size report and both biased accessors are
    the list operations on the tokens the answer stands for -/
theorem tao_iter (t : TAO) (k : Nat) :
    (asIter t).drain (k + 2) = resPaths t ∧
    ((asIter t).nth k).1 = (resPaths t)[k]? ∧ ((asIter t).nth k).2.toList = (resPaths t).drop (k + 1) ∧
    (asIter t).last = (resPaths t).getLast? ∧ (asIter t).count = (resPaths t).length ∧
    (asIter t).sizeHint = ((resPaths t).length, some (resPaths t).length) ∧
    (asIter t).leftBiased = (resPaths t).head? ∧ (asIter t).rightBiased = (resPaths t).getLast? := by
  rw [← asIter_toList]
  exact ⟨Util.TAO.drain_spec _ _ (by omega), (Util.TAO.nth_spec _ k).1, (Util.TAO.nth_spec _ k).2,
    (Util.TAO.last_count_spec _).1, (Util.TAO.last_count_spec _).2, Util.TAO.sizeHint_exact _,
    (Util.TAO.biased_spec _).1, (Util.TAO.biased_spec _).2⟩

/-- after a step the rest is still exactly described (`next` = head, remaining iterator = tail) -/
theorem tao_iter_next (t : TAO) :
    (asIter t).next.1 = (resPaths t).head? ∧ (asIter t).next.2.toList = (resPaths t).tail := by
  rw [← asIter_toList]; exact Util.TAO.next_spec _

theorem tao_iter_map {β : Type} (f : Path → β) (t : TAO) : ((asIter t).map f).toList = (resPaths t).map f := by
  rw [← asIter_toList]; exact Util.TAO.map_toList f _

example : (asIter (.between [0] [3])).nth 0 = (some [0], .single [3]) ∧ ((asIter (.between [0] [3])).nth 1).1 = some [3] := by decide

end Cst.C13
