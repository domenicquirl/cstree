/-
  Props/GenNav — the six element-level hops of a red node (`first_child_or_token`, `last_child_or_token`,
  `next_child_or_token_after`, `prev_child_or_token_before`, `next_sibling_or_token`, `prev_sibling_or_token` in
  `syntax/node.rs`) as transcribed.  Each asks ONE green iterator of ONE node for its first item and passes that item's
  (element, index, offset) unchanged to `get_or_add_element` of that same node; which iterator, started where, is the
  statement: forwards from index 0 at the node's own start, backwards from the number of children at the node's own end,
  forwards from `n + 1` / backwards from `n` at the offset the caller gives, and for the sibling hops the *parent's* iterator
  from `index + 1` at this element's end / backwards from `index` at this element's start.  These are the offset routes of
  `Model/Red` (C02: whichever route creates an element gives it the prefix-sum offset; C03: the hops land on the neighbours).
  Calls answer with free terms; whether an iterator has a first item, and whether the element has a parent, are observations.
-/
import CstModel.Generated.RsFns
import CstModel.Proofs.KernelRfl
namespace Cst
namespace Gen
open Rs

def GREEN (n : Val) : Val := .ctor 920 [n]
def FROM (g a b : Val) : Val := .ctor 921 [g, a, b]
def TO (g a b : Val) : Val := .ctor 922 [g, a, b]
def NCHILDREN (g : Val) : Val := .ctor 924 [g]
def START (n : Val) : Val := .ctor 926 [n]
def END_ (n : Val) : Val := .ctor 927 [n]
def ELEM (it : Val) : Val := .ctor 930 [it]
def IDX (it : Val) : Val := .ctor 931 [it]
def OFF (it : Val) : Val := .ctor 932 [it]
def GOT (n e i o : Val) : Val := .ctor 900 [n, e, i, o]

/-- `has`: the iterator asked has a first item; `child`: this element's index in its parent (none = it is the root) -/
def navSem (has : Bool) (child : Option Nat) : Sem :=
  { Sem.none with meth := fun m recv args =>
      match recv, args with
      | .atom n, [] =>
        if m == N.green then .ok (GREEN (.atom n)) recv
        else if m == N.text_range then .ok (.ctor 925 [.atom n]) recv
        else if m == N.data then .ok (.strct [(N.field.kind, .ctor 890 [])]) recv
        else .unknown
      | .atom n, [e, i, o] => if m == N.get_or_add_element then .ok (GOT (.atom n) e i o) recv else .unknown
      | .ctor 890 [], [] =>
        if m == N.as_child then .ok (vOpt (child.map fun idx => vTuple [.atom 7, .nat idx, .atom 0])) recv else .unknown
      | .ctor 925 [n], [] =>
        if m == N.start then .ok (START n) recv else if m == N.end_ then .ok (END_ n) recv else .unknown
      | .ctor 920 [n], [a, b] =>
        if m == N.children_from then .ok (FROM (GREEN n) a b) recv
        else if m == N.children_to then .ok (TO (GREEN n) a b) recv
        else .unknown
      | .ctor 920 [n], [] => if m == N.children then .ok (.ctor 923 [n]) recv else .unknown
      | .ctor 923 [n], [] => if m == N.len then .ok (NCHILDREN (GREEN n)) recv else .unknown
      | .ctor 921 xs, [] =>
        if m == N.next then .ok (if has then vSome (vTuple [ELEM (.ctor 921 xs), vTuple [IDX (.ctor 921 xs), OFF (.ctor 921 xs)]]) else vNone) recv else .unknown
      | .ctor 922 xs, [] =>
        if m == N.next then .ok (if has then vSome (vTuple [ELEM (.ctor 922 xs), vTuple [IDX (.ctor 922 xs), OFF (.ctor 922 xs)]]) else vNone) recv else .unknown
      | _, _ => .unknown }

def hop (has : Bool) (node it : Val) : Seen :=
  if has then .val (vSome (GOT node (ELEM it) (IDX it) (OFF it))) [] else .val vNone []

def self_ : Val := .atom 6
def parent_ : Val := .atom 7

theorem nv_first (has : Bool) (c : Option Nat) :
    call (navSem has c) 30 Rs.Gen.nv_first [self_] (xs := []) = hop has self_ (FROM (GREEN self_) (.nat 0) (START self_)) := by
  cases has <;> kernel_rfl

theorem nv_last (has : Bool) (c : Option Nat) :
    call (navSem has c) 30 Rs.Gen.nv_last [self_] (xs := []) = hop has self_ (TO (GREEN self_) (NCHILDREN (GREEN self_)) (END_ self_)) := by
  cases has <;> kernel_rfl

theorem nv_next_after (has : Bool) (c : Option Nat) (n : Nat) (off : Val) :
    call (navSem has c) 30 Rs.Gen.nv_next_after [self_, .nat n, off] (xs := []) = hop has self_ (FROM (GREEN self_) (.nat (n + 1)) off) := by
  cases has <;> kernel_rfl

theorem nv_prev_before (has : Bool) (c : Option Nat) (n : Nat) (off : Val) :
    call (navSem has c) 30 Rs.Gen.nv_prev_before [self_, .nat n, off] (xs := []) = hop has self_ (TO (GREEN self_) (.nat n) off) := by
  cases has <;> kernel_rfl

/-- the root has no siblings; a child asks its PARENT's children from `index + 1`, starting at its own end -/
theorem nv_next_sibling (has : Bool) (idx : Nat) :
    call (navSem has none) 30 Rs.Gen.nv_next_sibling [self_] (xs := []) = .val vNone []
    ∧ call (navSem has (some idx)) 30 Rs.Gen.nv_next_sibling [self_] (xs := []) =
        hop has parent_ (FROM (GREEN parent_) (.nat (idx + 1)) (END_ self_)) :=
  ⟨by kernel_rfl, by cases has <;> kernel_rfl⟩

/-- … and backwards from its own index, ending at its own start -/
theorem nv_prev_sibling (has : Bool) (idx : Nat) :
    call (navSem has none) 30 Rs.Gen.nv_prev_sibling [self_] (xs := []) = .val vNone []
    ∧ call (navSem has (some idx)) 30 Rs.Gen.nv_prev_sibling [self_] (xs := []) =
        hop has parent_ (TO (GREEN parent_) (.nat idx) (START self_)) :=
  ⟨by kernel_rfl, by cases has <;> kernel_rfl⟩

/-! #### tokens: a token is a struct with its parent and its index; its hops are its parent's indexed hops -/

def tokV (idx : Nat) : Val := .strct [(N.field.parent, .atom 7), (N.field.index, .nat idx)]

/-- `parent()`, `text_range()` of the token; the parent's indexed hops and green children answer with free terms; `nth` on the
    parent's children finds `found`, which is a token iff `isTok` -/
def tkSem (found : Bool) (isTok : Bool) : Sem :=
  { Sem.none with
    call := fun f args => if f == N.S.from_raw then (match args with | [k] => .ok (.ctor 940 [k]) .unit | _ => .unknown) else .unknown
    meth := fun m recv args =>
      match recv, args with
      | .strct [(601, .atom 7), (602, .nat i)], [] =>
        if m == N.parent then .ok (.atom 7) recv
        else if m == N.text_range then .ok (.ctor 925 [tokV i]) recv
        else if m == N.green then .ok (.ctor 941 [.nat i]) recv
        else if m == N.syntax_kind then .ok (.ctor 942 [.nat i]) recv
        else .unknown
      | .ctor 925 [n], [] =>
        if m == N.start then .ok (START n) recv else if m == N.end_ then .ok (END_ n) recv else .unknown
      | .atom 7, [n, o] =>
        if m == N.next_child_or_token_after then .ok (.ctor 943 [n, o]) recv
        else if m == N.prev_child_or_token_before then .ok (.ctor 944 [n, o]) recv
        else .unknown
      | .atom 7, [] => if m == N.green then .ok (GREEN (.atom 7)) recv else .unknown
      | .ctor 920 [n], [] => if m == N.children then .ok (.ctor 923 [n]) recv else .unknown
      | .ctor 923 [n], [i] => if m == N.nth then .ok (if found then vSome (.ctor 945 [n, i]) else vNone) recv else .unknown
      | .ctor 945 [n, i], [] => if m == N.as_token then .ok (if isTok then vSome (.ctor 946 [n, i]) else vNone) recv else .unknown
      | .ctor 941 [i], [] => if m == N.kind then .ok (.ctor 947 [i]) recv else .unknown
      | _, _ => .unknown }

/-- a token's sibling hops are its parent's indexed hops, from the token's own index, at the token's own end / start -/
theorem tk_siblings (f t : Bool) (idx : Nat) :
    call (tkSem f t) 30 Rs.Gen.tk_next_sibling [tokV idx] (xs := []) = .val (.ctor 943 [.nat idx, END_ (tokV idx)]) []
    ∧ call (tkSem f t) 30 Rs.Gen.tk_prev_sibling [tokV idx] (xs := []) = .val (.ctor 944 [.nat idx, START (tokV idx)]) [] :=
  ⟨by kernel_rfl, by kernel_rfl⟩

/-- `green()`: the parent's green child at the token's index, which must exist and be a token (else the `unwrap`s panic) -/
theorem tk_green (idx : Nat) :
    call (tkSem true true) 30 Rs.Gen.tk_green [tokV idx] (xs := []) = .val (.ctor 946 [.atom 7, .nat idx]) []
    ∧ call (tkSem false true) 30 Rs.Gen.tk_green [tokV idx] (xs := []) = .panic
    ∧ call (tkSem true false) 30 Rs.Gen.tk_green [tokV idx] (xs := []) = .panic :=
  ⟨by kernel_rfl, by kernel_rfl, by kernel_rfl⟩

/-- `syntax_kind()` is the green token's kind; `kind()` is `S::from_raw` of it -/
theorem tk_kinds (f t : Bool) (idx : Nat) :
    call (tkSem f t) 30 Rs.Gen.tk_syntax_kind [tokV idx] (xs := []) = .val (.ctor 947 [.nat idx]) []
    ∧ call (tkSem f t) 30 Rs.Gen.tk_kind [tokV idx] (xs := []) = .val (.ctor 940 [.ctor 942 [.nat idx]]) [] :=
  ⟨by kernel_rfl, by kernel_rfl⟩

/-! #### small accessors of a red node -/

/-- `data()` opens the node: its kind (root, or child of `parent`), its green node, its child slots -/
def ndSem (isRoot : Bool) (nslots : Nat) : Sem :=
  { Sem.none with
    call := fun f args => if f == N.S.from_raw then (match args with | [k] => .ok (.ctor 940 [k]) .unit | _ => .unknown) else .unknown
    meth := fun m recv args =>
      match recv, args with
      | .atom 6, [] =>
        if m == N.data then
          .ok (.strct [(N.field.kind, if isRoot then .ctor N.Kind.Root [.atom 0, .atom 0] else .strct [(N.field.parent, .atom 7), (N.field.index, .atom 0), (N.field.offset, .atom 0)]),
                       (N.field.green, .ctor 950 []), (N.field.children, .ctor 951 [])]) recv
        else if m == N.green then .ok (.ctor 950 []) recv
        else if m == N.syntax_kind then .ok (.ctor 952 []) recv
        else .unknown
      | .ctor 950 [], [] => if m == N.kind then .ok (.ctor 953 []) recv else .unknown
      | .ctor 951 [], [] => if m == N.len then .ok (.nat nslots) recv else .unknown
      | _, _ => .unknown }

/-- `kind()` converts the raw kind afresh on every call (`S::from_raw(self.syntax_kind())`) — nothing of the kind type is kept in
    the tree (what `C08.kind_irrelevant` rests on); `syntax_kind()` is the green node's; `green()` is the stored green node;
    `parent()` is `None` exactly for the root; `arity_with_tokens()` is the number of child slots -/
theorem nd_accessors (r : Bool) (n : Nat) :
    call (ndSem r n) 30 Rs.Gen.nd_kind [.atom 6] (xs := []) = .val (.ctor 940 [.ctor 952 []]) []
    ∧ call (ndSem r n) 30 Rs.Gen.nd_syntax_kind [.atom 6] (xs := []) = .val (.ctor 953 []) []
    ∧ call (ndSem r n) 30 Rs.Gen.nd_green [.atom 6] (xs := []) = .val (.ctor 950 []) []
    ∧ call (ndSem r n) 30 Rs.Gen.nd_arity_with_tokens [.atom 6] (xs := []) = .val (.nat n) []
    ∧ call (ndSem true n) 30 Rs.Gen.nd_parent [.atom 6] (xs := []) = .val vNone []
    ∧ call (ndSem false n) 30 Rs.Gen.nd_parent [.atom 6] (xs := []) = .val (vSome (.atom 7)) [] :=
  ⟨by kernel_rfl, by kernel_rfl, by kernel_rfl, by kernel_rfl, by kernel_rfl, by kernel_rfl⟩

end Gen
end Cst
