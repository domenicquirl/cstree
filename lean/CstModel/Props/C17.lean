/-
  C17 — Derived syntax kinds convert safely and invertibly.

  Model: `Model/Derive` — the derive's acceptance decision (error count), the generated
  `from_raw` / `into_raw` / `static_text`, Rust's discriminant rule.
-/
import CstModel.Model.Derive
import CstModel.Generated.SourceFacts
namespace Cst.C17

theorem setAll_snd {α : Type} (l : List α) : (setAll l).2 = 0 ↔ l.length ≤ 1 := by
  cases l <;> simp [setAll]

theorem setAll_single {α : Type} (l : List α) (a : α) : (setAll l).2 = 0 ∧ (setAll l).1 = some a ↔ l = [a] := by
  rcases l with _ | ⟨b, _ | _⟩ <;> simp [setAll]

theorem attrErr_zero (a : AttrForm) : attrErr a = 0 ↔ ∃ t, a = .lit t := by
  cases a <;> simp [attrErr]

theorem variantCheck_zero (v : VariantDef) : (variantCheck v).1 = 0 ↔
    v.fields = 0 ∧ v.discr = none ∧ (∀ a ∈ v.attrs, ∃ t, a = .lit t) ∧ (v.attrs.filterMap litOf).length ≤ 1 := by
  simp only [variantCheck, Nat.add_eq_zero_iff, List.sum_eq_zero_iff_forall_eq_nat, List.forall_mem_map,
    attrErr_zero, setAll_snd, and_assoc]
  cases v.discr <;> simp

/-- what acceptance means, spelt out: the error count is a sum, and it is zero iff every summand is -/
theorem accepts_iff (d : EnumDef) :
    accepts d = true ↔
      d.kind = .enum ∧ reprIdents d = ["u32"] ∧
      ∀ v ∈ d.variants, v.fields = 0 ∧ v.discr = none ∧
        (∀ a ∈ v.attrs, ∃ t, a = .lit t) ∧ (v.attrs.filterMap litOf).length ≤ 1 := by
  simp only [accepts, deriveErrors, decide_eq_true_eq]
  by_cases hk : d.kind = .enum
  · simp only [hk, ne_eq, not_true_eq_false, ↓reduceIte, Nat.add_eq_zero_iff, List.sum_eq_zero_iff_forall_eq_nat,
      List.forall_mem_map, variantCheck_zero, true_and, ← setAll_single, and_assoc]
    simp
  · simp [hk]

theorem discrs_plain (vs : List VariantDef) (k : Nat) (h : ∀ v ∈ vs, v.discr = none) :
    discrs vs k = List.range' k vs.length := by
  induction vs generalizing k with
  | nil => rfl
  | cons v vs ih =>
    have hv : v.discr = none := h v (by simp)
    simp only [discrs, hv, Option.getD_none, List.length_cons, List.range'_succ]
    rw [ih (k + 1) (fun w hw => h w (by simp [hw]))]

/-- **the conversion laws of every accepted definition** (`lt`: the generated assertion compares
    with `<` against the variant count): the raw values are exactly `0..n` in declaration order,
    `from_raw ∘ into_raw` is the identity, a raw value outside that range panics, the `transmute` is
    only reached on a valid discriminant, and the static text of each variant is the annotated one -/
theorem accepted_laws (d : EnumDef) (h : accepts d = true) :
    let n := d.variants.length
    discrs d.variants 0 = List.range n ∧
    (∀ i, i < n → intoRaw d i = some i ∧ fromRaw true d i = some i) ∧
    (∀ raw, n ≤ raw → fromRaw true d raw = none) ∧
    (∀ raw r, fromRaw true d raw = some r → r ∈ discrs d.variants 0) ∧
    (∀ i v, d.variants[i]? = some v →
      staticTextOf d i = (v.attrs.filterMap litOf).head?) := by
  intro n
  obtain ⟨_, _, hv⟩ := (accepts_iff d).mp h
  have hd : discrs d.variants 0 = List.range n := by
    rw [discrs_plain d.variants 0 (fun v hvm => (hv v hvm).2.1), List.range_eq_range']
  refine ⟨hd, ?_, ?_, ?_, ?_⟩
  · intro i hi
    have hi' : i < d.variants.length := hi
    refine ⟨by simp [intoRaw, hd, List.getElem?_range hi], by simp [fromRaw, hi']⟩
  · intro raw hr
    have : ¬ raw < d.variants.length := Nat.not_lt.mpr hr
    simp [fromRaw, this]
  · intro raw r hfr
    simp only [fromRaw, ↓reduceIte] at hfr
    split at hfr
    · rename_i hlt; cases hfr; rw [hd]; exact List.mem_range.mpr hlt
    · cases hfr
  · intro i v hiv
    simp only [staticTextOf, hiv, variantCheck]
    cases v.attrs.filterMap litOf <;> rfl

/-- **instantiation**: the generated assertion of the current derive is the strict one against the
    variant count -/
theorem assert_fact : SourceFacts.deriveAssertLt = true ∧ SourceFacts.deriveCountIsVariantCount = true := by decide

/-- an off-by-one assertion (`<=`) would let `transmute` produce an invalid enum value -/
theorem le_assert_unsound (d : EnumDef) (h : accepts d = true) :
    ∃ r, fromRaw false d d.variants.length = some r ∧ r ∉ discrs d.variants 0 := by
  obtain ⟨hd, _⟩ := accepted_laws d h
  refine ⟨d.variants.length, by simp [fromRaw], ?_⟩
  rw [hd]; simp

/-- **ill-formed definitions are rejected**: non-enums, enums without exactly the `u32`
    representation, variants with fields or explicit discriminants, malformed or duplicate
    `static_text` annotations -/
theorem ill_formed_rejected (d : EnumDef) :
    (d.kind ≠ .enum → accepts d = false) ∧
    (reprIdents d ≠ ["u32"] → accepts d = false) ∧
    (∀ v ∈ d.variants, v.fields ≠ 0 → accepts d = false) ∧
    (∀ v ∈ d.variants, v.discr ≠ none → accepts d = false) ∧
    (∀ v ∈ d.variants, ∀ a ∈ v.attrs, (∀ t, a ≠ .lit t) → accepts d = false) ∧
    (∀ v ∈ d.variants, 2 ≤ (v.attrs.filterMap litOf).length → accepts d = false) := by
  have key (ha : accepts d = true) := (accepts_iff d).mp ha
  simp only [← Bool.not_eq_true]
  exact ⟨fun h ha => h (key ha).1, fun h ha => h (key ha).2.1, fun v hv h ha => h ((key ha).2.2 v hv).1,
    fun v hv h ha => h ((key ha).2.2 v hv).2.1,
    fun v hv a hav h ha => let ⟨t, ht⟩ := ((key ha).2.2 v hv).2.2.1 a hav; h t ht,
    fun v hv h ha => absurd ((key ha).2.2 v hv).2.2.2 (Nat.not_le.mpr h)⟩

/-! ### non-vacuity -/
example : accepts ⟨.enum, [[.ident "u32"]], [⟨0, none, [.lit ['+']]⟩, ⟨0, none, []⟩]⟩ = true := by decide
example : accepts ⟨.enum, [[.ident "C", .ident "u32"]], [⟨0, none, []⟩]⟩ = false ∧
          accepts ⟨.enum, [[.ident "u32"]], [⟨0, some 5, []⟩]⟩ = false ∧
          accepts ⟨.enum, [[.ident "u32"]], [⟨0, none, [.path]⟩]⟩ = false := by decide

end Cst.C17
