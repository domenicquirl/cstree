/-
  C12 — The text view of a node behaves like the string it denotes.

  Model: `Model/SyntaxText`.  Every query of the view is a function of its *chunk list*; the
  theorems show that each query returns what the corresponding string operation returns on the
  concatenation of the chunks — however the text is split into chunks (tokens): length-independent
  folds, character search, position of a character, character at a boundary offset, equality
  against strings and — the non-routine one — the two-pointer comparison of two differently
  chunked views.
-/
import CstModel.Model.SyntaxText
import CstModel.Proofs.Text
namespace Cst.C12

/-- `to_string` / `Display` / chunk folds: the chunks concatenate -/
theorem concat_spec (ts : List Text) : chunksConcat (ts.map some) = some ts.flatten := by
  induction ts with
  | nil => rfl
  | cons t ts ih => simp [chunksConcat, ih]

theorem contains_append (a b : Text) (c : Char) : (a ++ b).contains c = (a.contains c || b.contains c) := by
  induction a with
  | nil => simp
  | cons d ds ih => simp only [List.cons_append, List.contains_cons, ih, Bool.or_assoc]

/-- **character search** -/
theorem contains_spec (c : Char) (ts : List Text) : chunksContain c (ts.map some) = some (ts.flatten.contains c) := by
  induction ts with
  | nil => simp [chunksContain]
  | cons t ts ih =>
    simp only [List.map_cons, chunksContain, List.flatten_cons, contains_append]
    cases h : t.contains c with
    | true => simp
    | false => simp [ih]

theorem findChar_append (a b : Text) (c : Char) :
    findChar (a ++ b) c = (match findChar a c with | some p => some p | none => (findChar b c).map (· + blen a)) := by
  induction a with
  | nil => simp [findChar]
  | cons d ds ih =>
    simp only [List.cons_append, findChar]
    by_cases h : d = c
    · simp [h]
    · simp only [h, ↓reduceIte, ih]
      cases findChar ds c with
      | some p => simp
      | none =>
        simp only [Option.map_none, Option.map_map]
        cases findChar b c with
        | none => rfl
        | some q => simp; omega

/-- **position of a character**: the running accumulator gives the byte offset of the first
    occurrence in the concatenation -/
theorem find_spec (c : Char) (acc : Nat) (ts : List Text) :
    chunksFind c acc (ts.map some) = some ((findChar ts.flatten c).map (acc + ·)) := by
  induction ts generalizing acc with
  | nil => simp [chunksFind, findChar]
  | cons t ts ih =>
    simp only [List.map_cons, chunksFind, List.flatten_cons, findChar_append]
    cases findChar t c with
    | some p => simp
    | none =>
      simp only [ih]
      cases findChar ts.flatten c with
      | none => rfl
      | some q => simp; omega

/-- **equality against a string** -/
theorem eqStr_spec (ts : List Text) (rhs : Text) : chunksEqStr (ts.map some) rhs = some (decide (ts.flatten = rhs)) := by
  induction ts generalizing rhs with
  | nil => cases rhs <;> simp [chunksEqStr]
  | cons t ts ih =>
    simp only [List.map_cons, chunksEqStr, List.flatten_cons]
    by_cases hp : t.isPrefixOf rhs = true
    · simp only [hp, ↓reduceIte, ih]
      obtain ⟨rest, rfl⟩ := List.isPrefixOf_iff_prefix.mp hp
      simp
    · simp only [hp, Bool.false_eq_true, ↓reduceIte, Option.some.injEq]
      have : ¬ t ++ ts.flatten = rhs := by
        intro e; apply hp; rw [← e]; exact List.isPrefixOf_iff_prefix.mpr (List.prefix_append _ _)
      simp [this]

/-- the character at a byte offset of a text (`s[off..].chars().next()`): `none` beyond the end
    or off a boundary -/
def charAtB (s : Text) (off : Nat) : Option Char := (dropBytes s off).bind List.head?

/-- the character at an offset of a concatenation is found in the part the offset falls into -/
theorem charAtB_append (a b : Text) (n : Nat) :
    charAtB (a ++ b) n = if n < blen a then charAtB a n else charAtB b (n - blen a) := by
  unfold charAtB
  rw [dropBytes_append]
  split
  · next hlt =>
    cases h : dropBytes a n with
    | none => rfl
    | some y =>
      obtain ⟨p, rfl, rfl⟩ := dropBytes_eq_some.mp h
      cases y with
      | nil => rw [List.append_nil] at hlt; exact absurd hlt (Nat.lt_irrefl _)   -- fewer bytes dropped than there are
      | cons c y => rfl
  · rfl

/-- **character at an offset**: walking the chunks with a running start finds the character the
    concatenation has at that byte offset (`none` at or beyond the end) -/
theorem charAt_spec (off start : Nat) (ts : List Text) (h : start ≤ off) :
    chunksCharAt off start (ts.map some) =
      (if off - start < blen ts.flatten then
         (match charAtB ts.flatten (off - start) with | some c => some (some c) | none => none)
       else some none) := by
  induction ts generalizing start with
  | nil => simp [chunksCharAt]
  | cons t ts ih =>
    simp only [List.map_cons, chunksCharAt, List.flatten_cons, blen_append, charAtB_append]
    by_cases hin : off < start + blen t
    · have h1 : off - start < blen t := by omega
      simp only [h, hin, and_self, ↓reduceIte, h1, Nat.lt_add_right, charAtB]
      cases dropBytes t (off - start) <;> rfl
    · have h1 : ¬ off - start < blen t := by omega
      simp only [hin, and_false, ↓reduceIte, h1, ih (start + blen t) (by omega), Nat.sub_add_eq,
        Nat.sub_lt_iff_lt_add' (Nat.le_of_not_lt h1)]

/-! ### slicing -/

/-- **slicing**: a sub-range inside the view gives the view of exactly that sub-range; anything
    else panics -/
theorem slice_spec (v : Red.View) (a b : Nat) (hv : v.range.1 ≤ v.range.2) :
    viewSlice v (some a) (some b) =
      if a ≤ b ∧ b ≤ v.range.2 - v.range.1 then some { v with range := (v.range.1 + a, v.range.1 + b) } else none := by
  unfold viewSlice
  by_cases hab : a ≤ b
  · simp only [Option.getD_some, hab, decide_true, Bool.not_true, Bool.false_eq_true, ↓reduceIte, true_and,
      Nat.le_add_right, Nat.add_assoc, Nat.add_sub_cancel' hab, Nat.le_sub_iff_add_le' hv]
  · simp only [Option.getD_some, hab, decide_false, Bool.not_false, ↓reduceIte, false_and]

/-! ### view against view: the two-pointer loop -/

def tot (xs : List Text) : Nat := (xs.map (fun c => c.length + 1)).sum

@[simp] theorem tot_cons (c : Text) (xs : List Text) : tot (c :: xs) = c.length + 1 + tot xs := by simp [tot]
@[simp] theorem tot_nil : tot [] = 0 := rfl

theorem isPrefixOf_split {x y : Text} (h : y.isPrefixOf x = true) : x = y ++ x.drop y.length := by
  obtain ⟨t, rfl⟩ := List.isPrefixOf_iff_prefix.mp h
  simp

/-- what `zip_texts` must say of the texts `X`, `Y` still to be compared -/
def ZipOk (X Y : Text) (res : Bool × List Text × List Text) : Prop :=
  (res.1 = true → X ≠ Y) ∧
  (res.1 = false → blen X = blen Y → X = Y ∧ res.2.1.flatten = [] ∧ res.2.2.flatten = [])

/-- a common prefix, once compared, is out of the way -/
theorem ZipOk.append_left {X Y : Text} {res : Bool × List Text × List Text} (h : ZipOk X Y res) (u : Text) :
    ZipOk (u ++ X) (u ++ Y) res :=
  ⟨fun hm e => h.1 hm (List.append_cancel_left e), fun hm hb => by
    obtain ⟨h1, h2⟩ := h.2 hm (by simp only [blen_append] at hb; omega)
    exact ⟨by rw [h1], h2⟩⟩

/-- specification of `zip_texts`: a reported mismatch means the texts differ; no mismatch together
    with equal byte lengths (the pre-test of `==`) means the texts are equal *and* nothing
    non-empty is left in either iterator (which is what makes the early exit sound) -/
theorem zip_spec (n : Nat) (x : Text) (xs : List Text) (y : Text) (ys : List Text)
    (hfuel : x.length + y.length + tot xs + tot ys < n) :
    ((zipTexts n x xs y ys).1 = true → x ++ xs.flatten ≠ y ++ ys.flatten) ∧
    ((zipTexts n x xs y ys).1 = false → blen (x ++ xs.flatten) = blen (y ++ ys.flatten) →
        x ++ xs.flatten = y ++ ys.flatten ∧ (zipTexts n x xs y ys).2.1.flatten = [] ∧ (zipTexts n x xs y ys).2.2.flatten = []) := by
  change ZipOk _ _ _
  fun_induction zipTexts n x xs y ys with
  | case1 => omega
  | case2 n y ys =>
    refine ⟨fun h => (nomatch h), fun _ h => ?_⟩
    obtain ⟨rfl, h2⟩ := List.append_eq_nil_iff.mp (blen_eq_zero.mp h.symm)
    exact ⟨by rw [h2]; rfl, rfl, h2⟩
  | case3 n y ys c xs ih => exact ih (by simp at hfuel ⊢; omega)
  | case4 n x xs hx =>
    refine ⟨fun h => (nomatch h), fun _ h => ?_⟩
    exact absurd (List.append_eq_nil_iff.mp (blen_eq_zero.mp h)).1 hx
  | case5 n x xs hx d ys ih => exact ih (by simp at hfuel ⊢; omega)
  | case6 n x xs y ys hx hy hp ih =>
    obtain ⟨x', rfl⟩ := List.isPrefixOf_iff_prefix.mp hp
    simp only [List.drop_left, List.nil_append, List.append_assoc] at ih ⊢
    exact (ih (by simp at hfuel ⊢; have := List.length_pos_iff.mpr hy; omega)).append_left y
  | case7 n x xs y ys hx hy _ hp ih =>
    obtain ⟨y', rfl⟩ := List.isPrefixOf_iff_prefix.mp hp
    simp only [List.drop_left, List.nil_append, List.append_assoc] at ih ⊢
    exact (ih (by simp at hfuel ⊢; have := List.length_pos_iff.mpr hx; omega)).append_left x
  | case8 n x xs y ys _ _ hp hq =>
    refine ⟨fun _ heq => ?_, fun h => nomatch h⟩
    rcases List.prefix_or_prefix_of_prefix (List.prefix_append x xs.flatten)
        (heq ▸ List.prefix_append y ys.flatten) with h | h
    · exact hq (List.isPrefixOf_iff_prefix.mpr h)
    · exact hp (List.isPrefixOf_iff_prefix.mpr h)
theorem all_empty_iff (xs : List Text) : xs.all (·.isEmpty) = true ↔ xs.flatten = [] := by
  induction xs with
  | nil => simp
  | cons x xs ih => simp [List.all_cons, ih, List.isEmpty_iff]

/-- **equality of two views**: whatever the two chunkings are, `==` holds exactly when the two
    concatenated texts are equal (given that the length pre-test compares their byte lengths) -/
theorem viewsEq_spec (xs ys : List Text) :
    viewsEq (blen xs.flatten) (blen ys.flatten) xs ys = decide (xs.flatten = ys.flatten) := by
  unfold viewsEq
  by_cases hl : blen xs.flatten = blen ys.flatten
  · simp only [hl, bne_self_eq_false, Bool.false_eq_true, ↓reduceIte]
    cases xs with
    | nil =>
      have : ys.flatten = [] := blen_eq_zero.mp (by simpa using hl.symm)
      simp [(all_empty_iff ys).mpr this, this]
    | cons x xs' =>
      cases ys with
      | nil =>
        have h0 : (x :: xs').flatten = [] := blen_eq_zero.mp (by simpa using hl)
        have h0' : x ++ xs'.flatten = [] := h0
        have : xs'.flatten = [] := (List.append_eq_nil_iff.mp h0').2
        simp only [List.tail_cons, (all_empty_iff xs').mpr this, h0, List.flatten_nil, decide_true]
      | cons y ys' =>
        simp only
        have hs := zip_spec (zipFuel (x :: xs') (y :: ys')) x xs' y ys' (by simp [zipFuel, tot]; omega)
        cases hz : zipTexts (zipFuel (x :: xs') (y :: ys')) x xs' y ys' with
        | mk mis rest =>
          obtain ⟨rx, ry⟩ := rest
          rw [hz] at hs
          simp only at hs ⊢
          cases mis with
          | true =>
            have := hs.1 rfl
            simp only [List.flatten_cons]
            simp [this]
          | false =>
            obtain ⟨h1, h2, h3⟩ := hs.2 rfl (by simpa using hl)
            simp only [List.flatten_cons, h1, decide_true]
            simp [(all_empty_iff rx).mpr h2, (all_empty_iff ry).mpr h3]
  · have hne : ¬ xs.flatten = ys.flatten := fun e => hl (by rw [e])
    simp [hl, hne]

/-! ### non-vacuity: the same text split differently, an empty chunk in the middle, multi-byte -/
example : viewsEq 4 4 [['a'], [], ['é', 'b']] [['a', 'é'], ['b']] = true ∧
          viewsEq 4 4 [['a'], ['é', 'b']] [['a', 'é'], ['c']] = false := by decide
example : chunksCharAt 1 0 [some ['a'], some [], some ['é', 'b']] = some (some 'é') ∧
          chunksFind 'b' 0 [some ['a'], some ['é', 'b']] = some (some 3) := by decide

end Cst.C12
