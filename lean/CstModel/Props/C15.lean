/-
  C15 — Green equality and hashing are structural and route-independent.

  Model: `Green.beq` (`==`: head + children, ids ignored), `Green.headWords` (`Hash`: the head
  only), the two constructors of a node (`Cache.node` of the builder, `Green.mkNew` =
  `GreenNode::new`), and the child iterator `ChildIter` (`green/iter.rs`).
-/
import CstModel.Proofs.Builder
import CstModel.Model.GreenOps
namespace Cst.C15

/-- a hash function that does not look at allocation identity -/
def HRespects (H : HashFn) : Prop := ∀ a b, Green.beqL a b = true → H a = H b

/-- the implementation's child hash (Fx over the children's words, any mask) respects `==` -/
theorem fx_respects (mask : UInt32) : HRespects (fxChildHash mask) := by
  intro a b h
  have key (gs : List Green) : (Green.shapeL gs).flatMap Green.hashWords = gs.flatMap Green.hashWords := by
    induction gs <;> simp_all [Green.shapeL, Green.shape_hashWords]
  simp only [fxChildHash, ← key a, (Green.beqL_iff a b).mp h, key b]

/-- **both routes store a head that is a function of the children**: `GreenNode::new` produces a
    well-formed node (length = sum of child lengths, hash = `H children`), exactly like the
    builder's `NodeCache::node` (`Cache.node_spec`) -/
theorem mkNew_wf (cfg : Cfg) (I : Interner) (id k : Nat) (cs : List Green) (h : GWfL cfg I cs) :
    GWf cfg I (Green.mkNew cfg.H id k cs) := by
  simp [Green.mkNew, GWf, h]

theorem mkNew_resolves (cfg : Cfg) (I : Interner) (id k : Nat) (cs : List Green) :
    resolveG cfg I (Green.mkNew cfg.H id k cs) = (resolveL cfg I cs).map (Tree.node k) := by
  simp [Green.mkNew, resolveG]

/-- **every green node's reported text length equals the byte length of its text** -/
theorem len_sum (cfg : Cfg) (I : Interner) (g : Green) (h : GWf cfg I g) :
    ∃ t, resolveG cfg I g = some t ∧ g.len = blen t.text := resolve_of_GWf g h

theorem HRespects.shape {H : HashFn} (hH : HRespects H) (cs : List Green) : H (Green.shapeL cs) = H cs :=
  hH _ _ ((Green.beqL_iff _ _).mpr (Green.shapeL_shapeL cs))

mutual
/-- the green element, up to allocation ids, that stands for a tree over interner `I` -/
def canon (cfg : Cfg) (I : Interner) : Tree → Green
  | .tok k s =>
    match cfg.staticText k with
    | some st => .tok 0 k none (blen st)
    | none => .tok 0 k (findIdx s I.strs) (blen s)
  | .node k ts => .node 0 k (sumLen (canonL cfg I ts)) (cfg.H (canonL cfg I ts)) (canonL cfg I ts)
def canonL (cfg : Cfg) (I : Interner) : List Tree → List Green
  | [] => []
  | t :: ts => canon cfg I t :: canonL cfg I ts
end

mutual
/-- over an interner without duplicates a well-formed element is, up to ids, a function of the tree it resolves to:
    keys are determined by the texts, lengths and hashes by the children -/
theorem shape_eq_canon {cfg : Cfg} {I : Interner} (hH : HRespects cfg.H) (hn : I.strs.Nodup) :
    (g : Green) → (t : Tree) → GWf cfg I g → resolveG cfg I g = some t → g.shape = canon cfg I t
  | .tok _ k none l, t, hw, hr => by
    obtain ⟨st, hs, rfl⟩ := hw
    simp only [resolveG, hs, Option.map_some, Option.some.injEq] at hr
    subst hr; simp [Green.shape, canon, hs]
  | .tok _ k (some key) l, t, hw, hr => by
    obtain ⟨hs, s, hk, rfl⟩ := hw
    simp only [resolveG, hk, Option.map_some, Option.some.injEq] at hr
    subst hr; simp [Green.shape, canon, hs, findIdx_of_resolve hn hk]
  | .node _ k l h cs, t, hw, hr => by
    obtain ⟨rfl, rfl, hcs⟩ := hw
    obtain ⟨ts, hts, rfl⟩ := Option.map_eq_some_iff.mp hr
    simp [Green.shape, canon, ← shapeL_eq_canonL hH hn cs ts hcs hts, sumLen_shapeL, HRespects.shape hH]
theorem shapeL_eq_canonL {cfg : Cfg} {I : Interner} (hH : HRespects cfg.H) (hn : I.strs.Nodup) :
    (gs : List Green) → (ts : List Tree) → GWfL cfg I gs → resolveL cfg I gs = some ts →
    Green.shapeL gs = canonL cfg I ts
  | [], ts, _, hr => by cases hr; rfl
  | g :: gs, ts, hw, hr => by
    obtain ⟨t, ts', h1, h2, rfl⟩ := resolveL_cons_eq_some.mp hr
    simp [Green.shapeL, canonL, shape_eq_canon hH hn g t hw.1 h1, shapeL_eq_canonL hH hn gs ts' hw.2 h2]
end

theorem beq_of_resolve {cfg : Cfg} {I : Interner} (hH : HRespects cfg.H) (hn : I.strs.Nodup)
    (a b : Green) (ha : GWf cfg I a) (hb : GWf cfg I b) (h : resolveG cfg I a = resolveG cfg I b) :
    Green.beq a b = true := by
  obtain ⟨t, ht, _⟩ := resolve_of_GWf a ha
  exact (Green.beq_iff a b).mpr ((shape_eq_canon hH hn a t ha ht).trans (shape_eq_canon hH hn b t hb (h ▸ ht)).symm)

theorem beqL_of_resolveL {cfg : Cfg} {I : Interner} (hH : HRespects cfg.H) (hn : I.strs.Nodup) :
    (as bs : List Green) → GWfL cfg I as → GWfL cfg I bs → resolveL cfg I as = resolveL cfg I bs →
    Green.beqL as bs = true := fun as bs ha hb h => by
  obtain ⟨ts, ht, _⟩ := resolveL_of_GWfL as ha
  exact (Green.beqL_iff as bs).mpr
    ((shapeL_eq_canonL hH hn as ts ha ht).trans (shapeL_eq_canonL hH hn bs ts hb (h ▸ ht)).symm)

/-- **Equality is structural and route-independent.** Over one interner (keys are a bijection:
    `Nodup`, C10), two well-formed green elements — whichever way they were produced: builder with
    a fresh or a shared cache (`Cache.node_spec`), `GreenNode::new` (`mkNew_wf`), replacement — are
    `==` exactly when they resolve to the same tree (same kinds, shape and token texts). -/
theorem eq_iff_struct (cfg : Cfg) (I : Interner) (hH : HRespects cfg.H) (hn : I.strs.Nodup)
    (a b : Green) (ha : GWf cfg I a) (hb : GWf cfg I b) :
    Green.beq a b = true ↔ resolveG cfg I a = resolveG cfg I b :=
  ⟨resolve_of_beq a b, beq_of_resolve hH hn a b ha hb⟩

/-- **equal elements hash equally**: `Hash` feeds the head (kind, length, child hash) for nodes and
    (kind, key, length) for tokens, all of which `==` compares -/
theorem hash_congr : (a b : Green) → Green.beq a b = true → a.headWords = b.headWords :=
  fun a b h => by rw [← a.shape_headWords, (Green.beq_iff a b).mp h, b.shape_headWords]

/-! ### the child iterator behaves like the plain sequence of the remaining children -/

open ChildIter

theorem next_spec (it : ChildIter) : next it = (it.head?, it.tail) := by
  cases it <;> rfl

theorem nextBack_spec (it : ChildIter) : nextBack it = (it.getLast?, it.dropLast) := by
  unfold nextBack
  cases h : it.getLast? with
  | none => rw [List.getLast?_eq_none_iff.mp h]; rfl
  | some g => rfl

theorem nth_spec (it : ChildIter) (n : Nat) : nth it n = (it[n]?, it.drop (n + 1)) := by
  unfold nth
  split
  · simp [next_spec, List.head?_drop, List.tail_drop]
  · rename_i h
    have h := Nat.le_of_not_lt h
    simp [List.drop_eq_nil_of_le, h, Nat.le_succ_of_le h]

theorem nthBack_spec (it : ChildIter) (n : Nat) :
    nthBack it n = (if n < it.length then it[it.length - 1 - n]? else none, it.take (it.length - 1 - n)) := by
  unfold nthBack
  split
  · rename_i h
    -- the first `len - n` elements are the reversed list without its first `n`, reversed back
    have e : it.take (it.length - n) = (it.reverse.drop n).reverse := by rw [List.drop_reverse, List.reverse_reverse]
    rw [nextBack_spec, e, List.getLast?_reverse, List.dropLast_reverse, List.head?_drop, List.tail_drop,
      List.drop_reverse, List.reverse_reverse, List.getElem?_reverse h, Nat.sub_add_eq, Nat.sub_right_comm]
  · rename_i h
    rw [Nat.sub_eq_zero_of_le (Nat.le_trans (Nat.sub_le _ _) (Nat.le_of_not_lt h))]; rfl

theorem len_spec (it : ChildIter) : len it = it.length := rfl

theorem last_spec (it : ChildIter) : last it = it.getLast? := by
  simp [last, nextBack_spec]

theorem foldLoop_spec {α : Type} (f : α → Green → α) (n : Nat) (acc : α) (it : ChildIter) (h : it.length ≤ n) :
    foldLoop f n acc it = it.foldl f acc := by
  induction n generalizing acc it with
  | zero => have : it = [] := List.eq_nil_of_length_eq_zero (Nat.le_zero.mp h); subst this; rfl
  | succ n ih =>
    cases it with
    | nil => rfl
    | cons x xs => simp only [foldLoop, next, List.foldl_cons]; exact ih _ _ (by simpa using h)

/-- `fold` visits exactly the remaining children, front to back -/
theorem fold_spec {α : Type} (f : α → Green → α) (init : α) (it : ChildIter) : fold f init it = it.foldl f init :=
  foldLoop_spec f _ _ _ (Nat.le_refl _)

theorem rfoldLoop_spec {α : Type} (f : α → Green → α) (n : Nat) (acc : α) (it : ChildIter) (h : it.length ≤ n) :
    rfoldLoop f n acc it = it.reverse.foldl f acc := by
  induction n generalizing acc it with
  | zero => have : it = [] := List.eq_nil_of_length_eq_zero (Nat.le_zero.mp h); subst this; rfl
  | succ n ih =>
    cases hl : it.getLast? with
    | none =>
      have := List.getLast?_eq_none_iff.mp hl; subst this; rfl
    | some x =>
      obtain ⟨ys, e⟩ := List.getLast?_eq_some_iff.mp hl
      subst e
      simp only [rfoldLoop, nextBack, hl, List.reverse_append, List.reverse_cons, List.reverse_nil, List.nil_append,
        List.singleton_append, List.foldl_cons]
      rw [List.dropLast_concat]
      exact ih _ _ (by simpa using h)

/-- `rfold` visits exactly the remaining children, back to front -/
theorem rfold_spec {α : Type} (f : α → Green → α) (init : α) (it : ChildIter) :
    rfold f init it = it.reverse.foldl f init :=
  rfoldLoop_spec f _ _ _ (Nat.le_refl _)

/-! ### non-vacuity -/
example : HRespects (fxChildHash 0xFFFFFFFF) := fx_respects _
example : (nthBack [Green.tok 0 1 none 1, Green.tok 1 2 none 1, Green.tok 2 3 none 1] 1).1.map Green.kind = some 2 := by
  decide

end Cst.C15
