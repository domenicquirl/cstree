/-
  C05 — One red element per tree position under any thread interleaving.

  Model: `Model/Conc`.  A slot is written once; every `get_or_add` on a slot — by any thread, by any
  route, in any reachable execution — completes by reading the element stored in the slot (a hit,
  or the re-read after an install / a lost race), so all handles for one position denote the same
  element; handles have identity semantics (nodes compare by `NodeData` pointer, tokens by parent
  pointer, index and offset — C02 makes the offset canonical).
-/
import CstModel.Proofs.Conc
import CstModel.Proofs.RedConc
import CstModel.Generated.SourceFacts
namespace Cst.C05

open Conc

theorem dec_slots (s : Sys) : (dec s).torn = s.torn → (dec s).slots = s.slots := by
  simp only [dec]
  by_cases h : s.rc = 1
  · simp [h]
  · simp [h]

theorem dec_torn_ge (s : Sys) : s.torn ≤ (dec s).torn := by
  simp only [dec]
  by_cases h : s.rc = 1 <;> simp [h]

/-- what one step does to the slots and to `torn`: nothing, or it installs into an empty slot, or
    it is a decrement (which clears the slots only when it tears down) -/
theorem step_effect (F : Facts) (s s' : Sys) (i : Nat) (a : Act) (hs : step F s i a = some s') :
    (s'.slots = s.slots ∧ s'.torn = s.torn) ∨
    (∃ sl e, s.slots[sl]? = some none ∧ s'.slots = s.slots.set sl (some e) ∧ s'.torn = s.torn) ∨
    (∃ s1, s' = dec s1 ∧ s1.slots = s.slots ∧ s1.torn = s.torn) := by
  cases step_sound F s s' i a hs with
  | spawn | send | rdHit => exact Or.inl ⟨rfl, rfl⟩
  | row a t u b d _ hr =>
    have ht : b.torn = s.torn := hr.frame.2
    rcases hr.slots with h | ⟨rfl, sl, e, h1, h2⟩
    · cases d
      · exact Or.inl ⟨h, ht⟩
      · exact Or.inr (Or.inr ⟨_, rfl, h, ht⟩)
    · exact Or.inr (Or.inl ⟨sl, e, h1, h2, ht⟩)

/-- `torn` never decreases -/
theorem torn_mono (F : Facts) (a b : Sys) (i : Nat) (act : Act) (hs : step F a i act = some b) : a.torn ≤ b.torn := by
  rcases step_effect F a b i act hs with ⟨_, h⟩ | ⟨_, _, _, _, h⟩ | ⟨s1, rfl, _, h1⟩
  · exact Nat.le_of_eq h.symm
  · exact Nat.le_of_eq h.symm
  · exact h1 ▸ dec_torn_ge s1

theorem torn_mono_reachable (F : Facts) (a b : Sys) (h : Reachable F a b) : a.torn ≤ b.torn := by
  induction h with
  | refl => exact Nat.le_refl _
  | step x y j act _ hxy ih => exact Nat.le_trans ih (torn_mono F x y j act hxy)

/-- **a slot is written once**: in one step, an installed element stays as it is unless the step
    tears the whole tree down -/
theorem slot_write_once (F : Facts) (s s' : Sys) (i : Nat) (a : Act) (hs : step F s i a = some s')
    (sl : Nat) (e : Bool × Nat) (he : s.slots[sl]? = some (some e)) (ht : s'.torn = s.torn) :
    s'.slots[sl]? = some (some e) := by
  rcases step_effect F s s' i a hs with ⟨h, _⟩ | ⟨sl', e', hempty, h, _⟩ | ⟨s1, rfl, h1, h2⟩
  · rw [h]; exact he
  · rw [h, List.getElem?_set]
    by_cases hsl : sl' = sl
    · subst hsl; rw [he] at hempty; simp at hempty
    · simp [hsl, he]
  · rw [dec_slots s1 (ht.trans h2.symm), h1]; exact he

/-- **one element per slot, for every execution**: once an element is installed in a slot, every
    later state of any execution — any number of threads, any interleaving — that has not torn the
    tree down still holds exactly that element there.  Hence every completed `get_or_add` on that
    slot (they all end in `rdHit` or `reread`, which read the slot) returns it. -/
theorem one_element_per_slot (F : Facts) (s s' : Sys) (hr' : Reachable F s s')
    (sl : Nat) (e : Bool × Nat) (he : s.slots[sl]? = some (some e)) (ht : s'.torn = s.torn) :
    s'.slots[sl]? = some (some e) := by
  induction hr' with
  | refl => exact he
  | step m m' i a hrm hs ih =>
    have h1 := torn_mono_reachable F s m hrm
    have h2 := torn_mono F m m' i a hs
    have hm : m.torn = s.torn := Nat.le_antisymm (ht ▸ h2) h1
    exact slot_write_once F m m' i a hs sl e (ih hm) (ht.trans hm.symm)

/-- completing a `get_or_add` (hit or re-read) requires the slot to be filled; what it reads is the
    slot's element -/
theorem completion_reads_slot (F : Facts) (s s' : Sys) (i : Nat) (sl : Nat)
    (hs : step F s i (.rdHit sl) = some s' ∨ (step F s i .reread = some s' ∧ ∃ t, s.thr[i]? = some t ∧ t.pc = .reread sl)) :
    ∃ e, s.slots[sl]? = some (some e) := by
  rcases hs with hs | ⟨hs, t, hti, hp⟩
  · cases step_sound F s s' i _ hs with
    | rdHit o _ e _ _ _ he => exact ⟨e, he⟩
    | row _ _ _ _ _ _ hr => cases hr
  · cases step_sound F s s' i _ hs with
    | row _ t' _ _ _ hti' hr =>
      cases hr with
      | reread o sl' e _ he =>
        cases hti.symm.trans hti'
        cases hp
        exact ⟨e, he⟩

/-- **losing a creation race has no observable effect** (on the counter): the loser's path adds
    the compensation in advance and then performs exactly that many decrements, each of which sees a
    counter of at least 2 (`C06.loser_never_tears_down`), so it can neither tear the tree down nor
    leave the counter changed.  Net effect of the amounts extracted from the source: -/
theorem loser_net_zero : (SourceFacts.loserNodeComp : Int) - 1 - 1 = 0 ∧ (SourceFacts.loserTokenComp : Int) - 1 = 0 := by
  decide

/-- **instantiation**: the source installs a candidate only into an empty slot (`if slot.is_none()
    { *slot = Some(elem); } else { … }`), and the only other assignment to a slot is the teardown's
    `*slot = None` — the model's `install` (enabled on an empty slot only) is the code's -/
theorem slot_protocol_facts : SourceFacts.slotInstallOnlyIfEmpty = true ∧ SourceFacts.slotAssignments = 2 := by decide

/-! ### non-vacuity: two threads race for slot 0; thread 1 loses; both end with the same element -/
def exF : Facts := ⟨2, 1⟩
def exRun : Option Sys := do
  let s1 ← step exF (Sys.init 1 2 1) 0 (.rdMiss 0 true)
  let s2 ← step exF s1 1 (.rdMiss 0 true)
  let s3 ← step exF s2 0 .install
  let s4 ← step exF s3 1 .lose
  let s5 ← step exF s4 1 .fetchAdd
  let s6 ← step exF s5 1 .dropCand
  let s7 ← step exF s6 1 .freeCand
  let s8 ← step exF s7 1 .reread
  step exF s8 0 .reread
example : (match exRun with
    | some s => s.rc == 2 && s.slots == [some (true, 0)] && s.blocks == [0] && s.freed == [1] && s.torn == 0
    | none => false) = true := by decide

/-! ### refinement to the sequential red tree (`Model/RedConc`): what a filled slot holds -/

/-- **any interleaving keeps the shared tree canonical**: from a fresh tree, whatever sequence of read phases (of
    operations that keep the sequential tree canonical — every navigation request does: `Proofs/Red`, `Proofs/TokenNav`)
    and `try_write`s the threads perform, in whatever order, every filled slot holds the canonical offset of its
    position, i.e. exactly what the sequential tree holds there by any route (`agrees_with_sequential`) -/
theorem slots_canonical_any_interleaving (g : Green) (hg : LenOk g) (n : Nat) (acts : List (Nat × RedConc.Act)) (s : RedConc.Sys)
    (hk : ∀ t f, (t, RedConc.Act.read f) ∈ acts → RedConc.KeepsR f) (hrun : RedConc.run (RedConc.Sys.init g n) acts = some s) :
    RedConc.Inv s ∧ s.red.root = g :=
  RedConc.inv_run acts (RedConc.Sys.init g n) s (RedConc.inv_init g hg n) hk hrun

/-- **the concurrent tree agrees with every sequential one**: a position materialised both in a concurrently used
    tree and in any sequentially navigated tree over the same green tree has the same offset (hence range; kind and
    parent are functions of the position) -/
theorem concurrent_agrees_with_sequential (s : RedConc.Sys) (hI : RedConc.Inv s) (r : Red) (hr : RInv r) (hroot : r.root = s.red.root)
    (q : Path) (o o' : Nat) (h1 : s.red.start q = some o) (h2 : r.start q = some o') : o = o' :=
  RedConc.agrees_with_sequential s hI r hr hroot q o o' h1 h2

/-- **losing a creation race has no observable effect**, and a filled slot is never overwritten -/
theorem race_loser_unobservable (s : RedConc.Sys) (hI : RedConc.Inv s) (es : List RedConc.Entry) (hes : es ∈ s.thr) (e : RedConc.Entry) (he : e ∈ es)
    (o : Nat) (hfilled : s.red.slots.lookup e.1 = some o) :
    o = e.2 ∧ ∀ t a (s' : RedConc.Sys), RedConc.step s t a = some s' → s'.red.slots.lookup e.1 = some o :=
  ⟨RedConc.loser_finds_its_own s hI es hes e he o hfilled, fun t a s' hs => RedConc.written_once s s' t a hs e.1 o hfilled⟩

/-- non-vacuity and the tie to the sequential operation: an uninterrupted read + write is `get_or_add` itself; the
    read phases of the model are the sequential navigation requests -/
theorem atomic_is_get_or_add (s : RedConc.Sys) (t : Nat) (p : Path) (i o : Nat) (ht : s.thr[t]? = some [])
    (hempty : s.red.slots.lookup (p ++ [i]) = none) :
    ∃ s1 s2, RedConc.step s t (.read (fun r => r.getOrAdd p i o)) = some s1 ∧ RedConc.step s1 t .write = some s2 ∧
      s2.red = s.red.getOrAdd p i o ∧ s2.thr = s.thr :=
  RedConc.atomic_is_sequential s t p i o ht hempty

example (p : Path) : RedConc.KeepsR (fun r => (r.firstChildOrToken p).2) ∧ RedConc.KeepsR (fun r => (r.lastChild p).2) ∧
    RedConc.KeepsR (fun r => (r.nextSibling p).2) ∧ RedConc.KeepsR (fun r => (r.preorderWithTokens p).2) :=
  ⟨RedConc.keepsR_of_keeps (.of_ext fun r => (firstChildOrToken_ok r p).ext), RedConc.keepsR_of_keeps (.of_ext fun r => (lastChild_ok r p).ext),
   RedConc.keepsR_of_keeps (.of_ext fun r => (nextSibling_ok r p).ext), RedConc.keepsR_of_keeps (.of_ext fun r => preorderWithTokens_ext r p)⟩

end Cst.C05
