/-
  C11 — Token text, static text and text equality agree.

  Model: `tokenText` (`SyntaxToken::resolve_text` / `ResolvedToken::text`), `textEq`
  (`SyntaxToken::text_eq` with its two `debug_assert!`s under `cfg.debug`), `Builder.token` /
  `Builder.staticToken`.  Tokens are the well-formed ones (`GWf`): exactly what builders produce
  (`Proofs/Builder`: every element on the builder's stack and in the caches is `GWf`), which
  includes the key discipline "no key ⇔ the kind has static text".
-/
import CstModel.Props.C01
import CstModel.Model.Fmt
namespace Cst.C11

/-- **resolving a token yields the text it was built from**: `resolve_text` agrees with the
    resolution of the green token, which C01 shows to be the text fed to the builder -/
theorem tokenText_eq_resolve (cfg : Cfg) (I : Interner) (id k : Nat) (key : Option Nat) (l : Nat)
    (h : GWf cfg I (.tok id k key l)) :
    tokenText cfg I (.tok id k key l) = (resolveG cfg I (.tok id k key l)).map Tree.text := by
  cases key with
  | none =>
    obtain ⟨st, hs, _⟩ := h
    simp [tokenText, resolveG, hs, Tree.text]
  | some key =>
    obtain ⟨hn, s, hs, _⟩ := h
    simp [tokenText, resolveG, hn, hs, Tree.text]

/-- a token built by `token(kind, text)` resolves to `text` (static kinds: to the static text, which
    the caller must have passed) -/
theorem resolve_built (cfg : Cfg) (b : Builder) (hb : BInv cfg b) (k : Nat) (s : Text) (hs : StaticOkTok cfg k s)
    (hcap : b.cache.interner.strs.length + 1 ≤ b.cache.interner.cap) :
    ∃ b' g, b.token cfg k s = .ok b' ∧ b'.children = b.children ++ [g] ∧
      tokenText cfg b'.cache.interner g = some s := by
  obtain ⟨b', hb'⟩ := token_total b k s (fun _ => hs) hcap
  have hp := token_pushed hb hb'
  rw [Cfg.tokText_of_ok hs] at hp
  obtain ⟨gs, hk, hr⟩ := hp.kids
  obtain ⟨g, rfl, hg⟩ := resolveL_eq_singleton.mp hr
  have hw : GWf cfg b'.cache.interner g := by
    have := hp.inv.kids; rw [hk, GWfL_append] at this; exact this.2.1
  refine ⟨b', g, hb', hk, ?_⟩
  cases g with
  | node _ _ _ _ _ => simp [resolveG] at hg
  | tok id k' key l => rw [tokenText_eq_resolve cfg _ id k' key l hw, hg]; rfl

/-- **static text does not consult the interner**: the text of a token whose kind has static text is
    the same under every interner -/
theorem static_no_interner (cfg : Cfg) (I I' : Interner) (id k : Nat) (key : Option Nat) (l : Nat) (st : Text)
    (h : cfg.staticText k = some st) :
    tokenText cfg I (.tok id k key l) = some st ∧ tokenText cfg I' (.tok id k key l) = some st := by
  simp [tokenText, h]

/-- adding such a token by kind alone or together with its text gives the same builder state -/
theorem static_two_ways (cfg : Cfg) (b : Builder) (k : Nat) (st : Text) (h : cfg.staticText k = some st) :
    b.token cfg k st = b.staticToken cfg k := C01.static_two_ways cfg b k st h

/-- **`text_eq` never panics** on tokens of built trees — in release *and* in debug builds -/
theorem textEq_total (cfg : Cfg) (I : Interner) (a b : Green) (ha : GWf cfg I a) (hb : GWf cfg I b)
    (hta : a.isNode = false) (htb : b.isNode = false) : ∃ v, textEq cfg a b = some v := by
  cases a with
  | node _ _ _ _ _ => simp [Green.isNode] at hta
  | tok ia ka keya la =>
    cases b with
    | node _ _ _ _ _ => simp [Green.isNode] at htb
    | tok ib kb keyb lb =>
      cases keya <;> cases keyb <;> simp only [textEq] <;> try exact ⟨_, rfl⟩
      obtain ⟨sa, ea, _⟩ := ha
      obtain ⟨sb, eb, _⟩ := hb
      simp [ea, eb]

/-- **`text_eq` is symmetric** -/
theorem textEq_symm (cfg : Cfg) (a b : Green) : textEq cfg a b = textEq cfg b a := by
  cases a with
  | node _ _ _ _ _ => cases b <;> simp [textEq]
  | tok ia ka keya la =>
    cases b with
    | node _ _ _ _ _ => simp [textEq]
    | tok ib kb keyb lb =>
      cases keya <;> cases keyb <;> simp only [textEq]
      · simp only [Bool.or_comm ((cfg.staticText ka).isNone), Bool.beq_comm (a := ka), Bool.beq_comm (a := cfg.staticText ka)]
      · simp [Bool.beq_comm]

/-- **`text_eq` returns true only if the resolved texts are equal** -/
theorem textEq_sound (cfg : Cfg) (I : Interner) (a b : Green) (ha : GWf cfg I a) (hb : GWf cfg I b)
    (h : textEq cfg a b = some true) : tokenText cfg I a = tokenText cfg I b := by
  cases a with
  | node _ _ _ _ _ => cases b <;> simp [textEq] at h
  | tok ia ka keya la =>
    cases b with
    | node _ _ _ _ _ => simp [textEq] at h
    | tok ib kb keyb lb =>
      cases keya with
      | none =>
        cases keyb with
        | some _ => simp [textEq] at h
        | none =>
          obtain ⟨sa, ea, _⟩ := ha
          obtain ⟨sb, eb, _⟩ := hb
          simp only [textEq, ea, eb, Option.isNone_some, Bool.or_self, Bool.and_false, Bool.false_eq_true, ↓reduceIte,
            Option.some.injEq, Bool.or_eq_true, beq_iff_eq] at h
          rcases h with h | h
          · subst h; rw [ea] at eb; cases eb; simp [tokenText, ea]
          · simp [tokenText, ea, eb]; exact h
      | some k1 =>
        cases keyb with
        | none => simp [textEq] at h
        | some k2 =>
          simp only [textEq, Option.some.injEq, beq_iff_eq] at h
          subst h
          simp [tokenText, ha.1, hb.1]

/-- **… and always returns true for equal texts when both kinds have static text or both have
    none** (over one interner, whose keys are a bijection: C10) -/
theorem textEq_complete_same_class (cfg : Cfg) (I : Interner) (hn : I.strs.Nodup) (a b : Green)
    (ha : GWf cfg I a) (hb : GWf cfg I b) (hta : a.isNode = false) (htb : b.isNode = false)
    (hclass : (cfg.staticText a.kind).isSome = (cfg.staticText b.kind).isSome)
    (ht : tokenText cfg I a = tokenText cfg I b) : textEq cfg a b = some true := by
  cases a with
  | node _ _ _ _ _ => simp [Green.isNode] at hta
  | tok ia ka keya la =>
    cases b with
    | node _ _ _ _ _ => simp [Green.isNode] at htb
    | tok ib kb keyb lb =>
      simp only [Green.kind] at hclass
      cases keya with
      | none =>
        obtain ⟨sa, ea, _⟩ := ha
        cases keyb with
        | some k2 =>
          rw [ea, hb.1] at hclass; simp at hclass
        | none =>
          obtain ⟨sb, eb, _⟩ := hb
          simp only [tokenText, ea, eb, Option.some.injEq] at ht
          subst ht
          simp [textEq, ea, eb]
      | some k1 =>
        obtain ⟨na, sa, ra, _⟩ := ha
        cases keyb with
        | none =>
          obtain ⟨sb, eb, _⟩ := hb
          rw [na, eb] at hclass; simp at hclass
        | some k2 =>
          obtain ⟨nb, sb, rb, _⟩ := hb
          simp only [tokenText, na, nb, ra, rb, Option.some.injEq] at ht
          subst ht
          have := resolve_inj hn ra rb
          simp [textEq, this]

/-! ### non-vacuity: mixed classes, an interned token whose text equals a static text, debug build -/
example :
    let cfg : Cfg := { statics := [(12, ['+']), (17, ['+'])], H := fun _ => 0, threshold := 3, cmpChildren := true, debug := true }
    (textEq cfg (.tok 0 12 none 1) (.tok 1 10 (some 0) 1), textEq cfg (.tok 1 10 (some 0) 1) (.tok 0 12 none 1),
     textEq cfg (.tok 0 12 none 1) (.tok 2 17 none 1)) = (some false, some false, some true) := by decide

end Cst.C11
