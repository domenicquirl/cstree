/-
  C09 — Checkpoints wrap and roll back exactly as documented.

  Model: `Builder.checkpoint / startNodeAt / revertTo` of `Model/Builder` (asserts in source order).
  Validity of a checkpoint is expressed on the stacks themselves: the stacks at checkpoint time
  (`P`, `C`) are prefixes of the current ones.  This is implied by the ghost-identity definition
  used by the harness' reference (a prefix of stamped stacks is a prefix of the stacks), so the
  theorems below cover every valid use in that sense.  `keeps_*` show which operations preserve
  validity: everything except finishing a node that reaches below the checkpoint and reverting past it.
-/
import CstModel.Proofs.BuilderOps
namespace Cst.C09

/-- well-formed stacks: first-child indices are non-decreasing from the outermost open node inwards
    and none exceeds the number of elements -/
def WFl (ps : List (Nat × Nat)) (n : Nat) : Prop :=
  (ps.map (·.2)).Pairwise (· ≤ ·) ∧ ∀ p ∈ ps, p.2 ≤ n

def WF (b : Builder) : Prop := WFl b.parents b.children.length

theorem WFl.mono {ps : List (Nat × Nat)} {n m : Nat} (h : WFl ps n) (hnm : n ≤ m) : WFl ps m :=
  ⟨h.1, fun p hp => Nat.le_trans (h.2 p hp) hnm⟩

theorem WFl.push {ps : List (Nat × Nat)} {n : Nat} (h : WFl ps n) (k f : Nat)
    (hle : ∀ p ∈ ps, p.2 ≤ f) (hf : f ≤ n) : WFl (ps ++ [(k, f)]) n := by
  refine ⟨?_, ?_⟩
  · rw [List.map_append, List.pairwise_append]
    refine ⟨h.1, by simp, ?_⟩
    intro a ha b hb
    simp at hb; subst hb
    obtain ⟨p, hp, rfl⟩ := List.mem_map.mp ha
    exact hle p hp
  · intro p hp
    rcases List.mem_append.mp hp with hp | hp
    · exact h.2 p hp
    · simp at hp; subst hp; exact hf

/-- in a sorted stack the checkpoint asserts only look at the innermost entry, and that is enough -/
theorem le_of_inside {ps : List (Nat × Nat)} {n : Nat} (hs : (ps.map (·.2)).Pairwise (· ≤ ·))
    (h : Builder.cpInside ps n) : ∀ p ∈ ps, p.2 ≤ n := by
  cases hl : ps.getLast? with
  | none => simp [List.getLast?_eq_none_iff.mp hl]
  | some x =>
    obtain ⟨ys, rfl⟩ := List.getLast?_eq_some_iff.mp hl
    rw [List.map_append, List.pairwise_append] at hs
    intro p hp
    rcases List.mem_append.mp hp with hp | hp
    · exact Nat.le_trans (hs.2.2 _ (List.mem_map_of_mem hp) _ (by simp)) (h x hl)
    · simp at hp; subst hp; exact h p hl

theorem WFl.inside {ps : List (Nat × Nat)} {n : Nat} (h : WFl ps n) : Builder.cpInside ps n :=
  fun x hx => h.2 x (List.mem_of_getLast? hx)

theorem WFl.take {ps : List (Nat × Nat)} {n : Nat} (h : WFl ps n) (i : Nat) : WFl (ps.take i) n :=
  ⟨List.Pairwise.sublist ((List.take_sublist _ _).map _) h.1,
   fun p hp => h.2 p (List.mem_of_mem_take hp)⟩

theorem WFl.dropLast {ps : List (Nat × Nat)} {n : Nat} (h : WFl ps n) : WFl ps.dropLast n :=
  ⟨List.Pairwise.sublist ((List.dropLast_sublist _).map _) h.1,
   fun p hp => h.2 p (List.dropLast_subset _ hp)⟩

/-! ### the well-formedness invariant: initial state, and every operation that does not panic -/

theorem wf_new (c : Cache) : WF (Builder.new c) := by simp [WF, WFl, Builder.new]

theorem wf_start (b : Builder) (k : Nat) (h : WF b) : WF (b.startNode k) :=
  WFl.push h k _ (fun p hp => h.2 p hp) (Nat.le_refl _)

theorem token_shape {cfg : Cfg} {b b' : Builder} {k : Nat} {s : Text} (h : b.token cfg k s = .ok b') :
    b'.parents = b.parents ∧ ∃ g, b'.children = b.children ++ [g] := by
  obtain ⟨_, _, _, rfl⟩ := Builder.token_ok_iff.mp h
  exact ⟨rfl, _, rfl⟩

theorem stok_shape {cfg : Cfg} {b b' : Builder} {k : Nat} (h : b.staticToken cfg k = .ok b') :
    b'.parents = b.parents ∧ ∃ g, b'.children = b.children ++ [g] := by
  cases hst : cfg.staticText k with
  | none => rw [Builder.staticToken_none hst] at h; cases h
  | some st => rw [Builder.staticToken_some hst] at h; cases h; exact ⟨rfl, _, rfl⟩

theorem wf_token {cfg : Cfg} {b b' : Builder} {k : Nat} {s : Text} (h : b.token cfg k s = .ok b') (hw : WF b) : WF b' := by
  obtain ⟨hp, g, hc⟩ := token_shape h
  unfold WF; rw [hp, hc]; exact WFl.mono hw (by simp)

theorem wf_stok {cfg : Cfg} {b b' : Builder} {k : Nat} (h : b.staticToken cfg k = .ok b') (hw : WF b) : WF b' := by
  obtain ⟨hp, g, hc⟩ := stok_shape h
  unfold WF; rw [hp, hc]; exact WFl.mono hw (by simp)

theorem wf_finish {cfg : Cfg} {b b' : Builder} (h : b.finishNode cfg = .ok b') (hw : WF b) : WF b' := by
  obtain ⟨k, first, hl, hf, rfl⟩ := Builder.finishNode_ok_iff.mp h
  refine WFl.mono (n := first) ⟨(WFl.dropLast hw).1, fun p hm => ?_⟩ ?_
  · exact le_of_inside hw.1 (fun x hx => by rw [hl] at hx; cases hx; exact Nat.le_refl _) p (List.dropLast_subset _ hm)
  · rw [List.length_append, List.length_take, Nat.min_eq_left hf]; exact Nat.le_succ _

theorem wf_startAt {b b' : Builder} {cp : Checkpoint} {k : Nat} (h : b.startNodeAt cp k = .ok b') (hw : WF b) : WF b' := by
  obtain ⟨_, h2, h3, rfl⟩ := Builder.startNodeAt_ok_iff.mp h
  exact WFl.push hw k _ (le_of_inside hw.1 h3) h2

theorem wf_revert {b b' : Builder} {cp : Checkpoint} (h : b.revertTo cp = .ok b') (hw : WF b) : WF b' := by
  obtain ⟨_, h2, h3, rfl⟩ := Builder.revertTo_ok_iff.mp h
  refine WFl.mono ⟨(WFl.take hw cp.1).1, le_of_inside (WFl.take hw cp.1).1 h3⟩ ?_
  rw [List.length_take, Nat.min_eq_left h2]; exact Nat.le_refl _

/-- **misuse is safe**: whatever checkpoint is used in whatever (well-formed) state, the operation
    either panics or leaves a well-formed builder -/
theorem misuse_safe (b : Builder) (cp : Checkpoint) (k : Nat) (hw : WF b) :
    (∃ p, b.startNodeAt cp k = .error p) ∨ (∃ b', b.startNodeAt cp k = .ok b' ∧ WF b') := by
  cases h : b.startNodeAt cp k with
  | error p => exact Or.inl ⟨p, rfl⟩
  | ok b' => exact Or.inr ⟨b', rfl, wf_startAt h hw⟩

theorem misuse_safe_revert (b : Builder) (cp : Checkpoint) (hw : WF b) :
    (∃ p, b.revertTo cp = .error p) ∨ (∃ b', b.revertTo cp = .ok b' ∧ WF b') := by
  cases h : b.revertTo cp with
  | error p => exact Or.inl ⟨p, rfl⟩
  | ok b' => exact Or.inr ⟨b', rfl, wf_revert h hw⟩

/-- a well-formed builder never hits the slice panic in `finish_node`; it panics only when no node
    is open -/
theorem finish_total {cfg : Cfg} (b : Builder) (hw : WF b) (hopen : b.parents ≠ []) :
    ∃ b', b.finishNode cfg = .ok b' :=
  have hl := List.getLast?_eq_some_getLast hopen
  ⟨_, Builder.finishNode_ok_iff.mpr ⟨_, _, hl, hw.inside _ hl, rfl⟩⟩

/-! ### valid uses -/

/-- **Reverting restores exactly the state at the checkpoint.** If the stacks at checkpoint time
    (`P`, `C`, themselves well-formed) are prefixes of the current stacks, `revert_to` does not panic
    and leaves precisely `P` and `C`: all tokens and all nodes, finished or unfinished, added since
    are gone.  The cache is untouched. -/
theorem revert_ok (b : Builder) (P : List (Nat × Nat)) (C : List Green)
    (hP : P <+: b.parents) (hC : C <+: b.children) (hcp : WFl P C.length) :
    b.revertTo (P.length, C.length) = .ok { b with parents := P, children := C } := by
  have htp := List.prefix_iff_eq_take.mp hP
  have htc := List.prefix_iff_eq_take.mp hC
  exact Builder.revertTo_ok_iff.mpr ⟨hP.length_le, hC.length_le, htp ▸ hcp.inside, by rw [← htp, ← htc]⟩

/-- **Wrapping.** If every node started since the checkpoint has been finished (the parent stack is
    the one at checkpoint time) and the elements at checkpoint time are still there,
    `start_node_at` does not panic and opens a node whose first child is the first element added
    since the checkpoint; nothing else changes. -/
theorem wrap_ok (b : Builder) (C : List Green) (k : Nat)
    (hC : C <+: b.children) (hcp : WFl b.parents C.length) :
    b.startNodeAt (b.parents.length, C.length) k = .ok { b with parents := b.parents ++ [(k, C.length)] } :=
  Builder.startNodeAt_ok_iff.mpr ⟨rfl, hC.length_le, hcp.inside, rfl⟩

/-- … and the node finished next contains **precisely the elements added since the checkpoint**:
    the element stack becomes `C ++ [node]`, the node being built from `children.drop |C|`. -/
theorem wrap_contains (cfg : Cfg) (b : Builder) (C : List Green) (k : Nat) (hC : C <+: b.children) :
    ({ b with parents := b.parents ++ [(k, C.length)] } : Builder).finishNode cfg =
      .ok { cache := (b.cache.node cfg k (b.children.drop C.length)).2, parents := b.parents,
            children := C ++ [(b.cache.node cfg k (b.children.drop C.length)).1] } :=
  Builder.finishNode_ok_iff.mpr ⟨k, C.length, List.getLast?_concat, hC.length_le,
    by rw [← List.prefix_iff_eq_take.mp hC, List.dropLast_concat]⟩

/-- **Wrapping while a node started since the checkpoint is still open panics**, as documented. -/
theorem wrap_open_panics (b : Builder) (P : List (Nat × Nat)) (n k : Nat)
    (hP : P <+: b.parents) (hopen : P.length < b.parents.length) :
    b.startNodeAt (P.length, n) k = .error .cpUnfinished :=
  Builder.startNodeAt_unfinished hopen k

/-! ### which operations keep a checkpoint valid -/

/-- validity of the checkpoint that recorded stacks `P`, `C` -/
def Valid (P : List (Nat × Nat)) (C : List Green) (b : Builder) : Prop := P <+: b.parents ∧ C <+: b.children

theorem keeps_start (P C) (b : Builder) (k : Nat) (h : Valid P C b) : Valid P C (b.startNode k) :=
  ⟨List.IsPrefix.trans h.1 (List.prefix_append _ _), h.2⟩

theorem keeps_token {cfg : Cfg} (P C) {b b' : Builder} {k : Nat} {s : Text} (hb : b.token cfg k s = .ok b')
    (h : Valid P C b) : Valid P C b' := by
  obtain ⟨hp, g, hc⟩ := token_shape hb
  exact ⟨hp ▸ h.1, hc ▸ List.IsPrefix.trans h.2 (List.prefix_append _ _)⟩

theorem prefix_take {α : Type} {l₁ l₂ : List α} (h : l₁ <+: l₂) {n : Nat} (hn : l₁.length ≤ n) : l₁ <+: l₂.take n :=
  (List.prefix_take_iff.mpr ⟨h, hn⟩)

/-- finishing a node started since the checkpoint (one whose first child is not below the
    checkpoint) keeps it valid — finishing an older node is what invalidates it -/
theorem keeps_finish {cfg : Cfg} (P C) {b b' : Builder} (hb : b.finishNode cfg = .ok b') (h : Valid P C b)
    (hnew : P.length < b.parents.length)
    (hfirst : ∀ x, b.parents.getLast? = some x → C.length ≤ x.2) : Valid P C b' := by
  obtain ⟨k, first, hl, hf, rfl⟩ := Builder.finishNode_ok_iff.mp hb
  refine ⟨?_, List.IsPrefix.trans (prefix_take h.2 (hfirst _ hl)) (List.prefix_append _ _)⟩
  rw [List.dropLast_eq_take]
  exact prefix_take h.1 (Nat.le_sub_one_of_lt hnew)

/-- reverting to a checkpoint that is not older keeps an older checkpoint valid -/
theorem keeps_revert (P C) {b b' : Builder} {cp : Checkpoint} (hb : b.revertTo cp = .ok b') (h : Valid P C b)
    (h1 : P.length ≤ cp.1) (h2 : C.length ≤ cp.2) : Valid P C b' := by
  obtain ⟨_, _, _, rfl⟩ := Builder.revertTo_ok_iff.mp hb
  exact ⟨prefix_take h.1 h1, prefix_take h.2 h2⟩

/-! ### non-vacuity: the documented wrap and revert patterns, evaluated on the model -/
example :
    let cfg : Cfg := { statics := [], H := fun _ => 0, threshold := 3, cmpChildren := true, debug := false }
    let b0 := (Builder.new (Cache.empty (Interner.empty 10))).startNode 0
    let cp := b0.checkpoint
    (match b0.token cfg 10 ['a'] with
     | .ok b1 => (match (b1.startNode 2).revertTo cp with | .ok b2 => some (b2.parents.length, b2.children.length) | .error _ => none)
     | .error _ => none) = some (1, 0) := by decide +kernel

end Cst.C09
